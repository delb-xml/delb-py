import DelbModel.Model.XPath.Eval
import DelbModel.Model.XPath.Spec
import DelbModel.Model.XPath.PredSpec
import DelbModel.Lemmas.XPathEval
/-!
# C06 — XPath queries select what XPath 1.0 says they select

Property theorems only; helper lemmas are in `DelbModel/Lemmas/XPathEval.lean`.
Addresses (`List Nat`) name nodes; `p <+: q` (prefix) is the ancestor-or-self relation, the
order of `docOrder root` is document order.  The three established deviations are part of the
statements: an unprefixed name means the declared default namespace (`nodeTest`), `following` /
`preceding` include descendants / ancestors, `node()` selects tag nodes (and the document node).
-/
namespace Delb.XPath
open Delb.Edit

/-- `docOrder` lists exactly the addresses that exist, each once -/
theorem c06_docorder (root : PTree) :
    (docOrder root).Nodup ∧ ∀ p, p ∈ docOrder root ↔ (getAtP root p).isSome := by
  exact ⟨docOrder_nodup root, mem_docOrder root⟩

/-- document order extends the ancestor relation: a node comes before its descendants -/
theorem c06_docorder_prefix (root : PTree) (p q : List Nat) (hq : q ∈ docOrder root) (hpq : p <+: q) (hne : p ≠ q) :
    ∃ l₁ l₂ l₃, docOrder root = l₁ ++ p :: l₂ ++ q :: l₃ := by
  exact (sorted_before_iff pathLt_irrefl pathLt_asymm (docOrder_sorted root) (mem_docOrder_of_prefix hq hpq) hq).1
    (pathLt_of_prefix hpq hne)

/-- child axis: the children, in document order -/
theorem c06_axis_child (root : PTree) (p : List Nat) :
    axisNodes root "child" (.at p) = .ok ((List.range (kidsCount root p)).map (fun i => XNode.at (p ++ [i]))) ∧
    ∀ i, i < kidsCount root p ↔ (getAtP root (p ++ [i])).isSome := by
  exact ⟨by rw [axisNodes], lt_kidsCount_iff root p⟩

/-- descendant axis: exactly the proper descendants, in document order -/
theorem c06_axis_descendant (root : PTree) (p : List Nat) (l : List XNode)
    (h : axisNodes root "descendant" (.at p) = .ok l) :
    l = (descendantPaths root p).map XNode.at ∧
    (∀ q, q ∈ descendantPaths root p ↔ (p <+: q ∧ q ≠ p ∧ (getAtP root q).isSome)) ∧
    (descendantPaths root p).Sublist (docOrder root) := by
  rw [axisNodes] at h
  cases h
  exact ⟨rfl, mem_descendantPaths root p, descendantPaths_sublist root p⟩

/-- ancestor axis: the proper prefixes, nearest first, then the document node -/
theorem c06_axis_ancestor (root : PTree) (p : List Nat) (l : List XNode)
    (h : axisNodes root "ancestor" (.at p) = .ok l) :
    l = (ancestorPaths p).map XNode.at ++ [.doc] ∧
    (∀ q, q ∈ ancestorPaths p ↔ (q <+: p ∧ q ≠ p)) ∧
    (ancestorPaths p).map List.length = (List.range p.length).reverse := by
  rw [axisNodes] at h
  cases h
  exact ⟨rfl, fun q => mem_ancestorPaths p q, ancestorPaths_lengths p⟩

/-- following / preceding (delb's reading): everything after / before the node in document order,
    nearest first; together with the node they partition the document -/
theorem c06_axis_following_preceding (root : PTree) (p : List Nat) (hp : p ∈ docOrder root) :
    axisNodes root "following" (.at p) = .ok ((followingPaths root p).map XNode.at) ∧
    axisNodes root "preceding" (.at p) = .ok ((precedingPaths root p).map XNode.at) ∧
    (precedingPaths root p).reverse ++ p :: followingPaths root p = docOrder root := by
  exact ⟨by rw [axisNodes], by rw [axisNodes], preceding_following_partition root p hp⟩

/-- sibling axes: the later / earlier children of the parent, nearest first -/
theorem c06_axis_siblings (root : PTree) (par : List Nat) (i : Nat) :
    siblingsAfter root (par ++ [i]) = ((List.range (kidsCount root par)).filter (· > i)).map (fun j => par ++ [j]) ∧
    siblingsBefore root (par ++ [i]) = ((List.range i).reverse).map (fun j => par ++ [j]) := by
  exact ⟨siblingsAfter_eq root par i, siblingsBefore_eq root par i⟩

/-- every axis yields each node at most once -/
theorem c06_axis_nodup (root : PTree) (axis : String) (n : XNode) (l : List XNode)
    (hn : ∀ p, n = .at p → p ∈ docOrder root) (h : axisNodes root axis n = .ok l) : l.Nodup := by
  have _ := hn  -- not needed: the axes are duplicate-free for any address
  exact axis_nodup root axis n l h

/-- a location step selects a sub-sequence of its axis (axis order kept), and only nodes that pass
    the node test -/
theorem c06_step_selects (root : PTree) (env : NsEnv) (s : Step) (n : XNode) (axis r : List XNode)
    (ha : axisNodes root s.axis n = .ok axis) (h : evalStepAt root env s n = .ok r) :
    r.Sublist axis ∧ ∀ m ∈ r, nodeTest root env s.test m = .ok true := by
  obtain ⟨cands, hc, hp⟩ := evalStepAt_spec root env s n axis r ha h
  obtain ⟨hs, hm⟩ := filterTest_spec root env s.test axis cands hc
  have hr := applyPreds_sublist root env s.preds cands r hp
  exact ⟨hr.trans hs, fun m hmr => ((hm m).1 (hr.subset hmr)).2⟩

/-- without predicates it selects exactly the axis nodes passing the test -/
theorem c06_step_no_predicates (root : PTree) (env : NsEnv) (ax : String) (t : NodeTest) (n : XNode)
    (axis r : List XNode) (ha : axisNodes root ax n = .ok axis)
    (h : evalStepAt root env { axis := ax, test := t, preds := [] } n = .ok r) :
    ∀ m, m ∈ r ↔ (m ∈ axis ∧ nodeTest root env t m = .ok true) := by
  obtain ⟨cands, hc, hp⟩ := evalStepAt_spec root env _ n axis r ha h
  simp only [applyPreds, Except.ok.injEq] at hp
  subst hp
  exact (filterTest_spec root env t axis cands hc).2

/-- a positional predicate `[k]` selects the k-th node of the candidates in axis order
    (proximity position, also on reverse axes since those list nearest first) -/
theorem c06_step_position (root : PTree) (env : NsEnv) (ax : String) (t : NodeTest) (n : XNode) (k : Nat)
    (cands r : List XNode)
    (hc : evalStepAt root env { axis := ax, test := t, preds := [] } n = .ok cands)
    (h : evalStepAt root env { axis := ax, test := t, preds := [Expr.binop "=" (Expr.func "position".toList []) (Expr.num k)] } n = .ok r) :
    r = (match k with | 0 => [] | k' + 1 => (cands[k']?).toList) := by
  rw [evalStepAt_preds root env ax t _ n cands hc, applyPreds_cons, filterPred_poseq] at h
  cases h
  cases k <;> simp

/-- stacked predicates renumber: the second predicate sees positions within the survivors of the first -/
theorem c06_preds_compose (root : PTree) (env : NsEnv) (p : Expr) (ps : List Expr) (cands : List XNode) :
    applyPreds root env (p :: ps) cands =
      (match filterPred root env p cands.length 1 cands with
       | .error e => .error e
       | .ok next => applyPreds root env ps next) := by
  exact applyPreds_cons root env p ps cands

/-- a step over a node set is the union of the per-node results … -/
theorem c06_step_union (root : PTree) (env : NsEnv) (s : Step) (ns r : List XNode)
    (h : evalStep root env s [] ns = .ok r) :
    ∀ m, m ∈ r ↔ ∃ n ∈ ns, ∃ l, evalStepAt root env s n = .ok l ∧ m ∈ l := by
  intro m
  rw [(evalStep_spec root env s [] ns r h).2.2 m]
  simp

/-- … in which every node occurs once -/
theorem c06_step_nodup (root : PTree) (env : NsEnv) (s : Step) (ns r : List XNode)
    (h : evalStep root env s [] ns = .ok r) : r.Nodup := by
  exact (evalStep_spec root env s [] ns r h).1 List.nodup_nil

/-- the result of a whole expression is duplicate-free and is the union of its paths' results -/
theorem c06_result (root : PTree) (env : NsEnv) (ctx : List Nat) (x : XExpr) (r : List XNode)
    (h : evaluate root env ctx x = .ok r) :
    r.Nodup ∧ (.doc ∉ r) ∧
    ∀ m, m ∈ r ↔ ∃ p ∈ x, ∃ l, evalPath root env ctx p = .ok l ∧ m ∈ l := by
  obtain ⟨hn, hd, -, hm⟩ := evalPaths_spec root env ctx [] x r h
  refine ⟨hn List.nodup_nil, hd (by simp), fun m => ?_⟩
  rw [hm m]
  simp

/-- `in_document_order()`: the same addresses, sorted by document order, each once -/
theorem c06_sorted (ps : List (List Nat)) :
    (∀ p, p ∈ Nav.sortPaths ps ↔ p ∈ ps) ∧ (Nav.sortPaths ps).Pairwise (fun (a b : List Nat) => Nav.pathLt a b = true) := by
  exact sortPaths_spec ps

/-- lexicographic path order is document order -/
theorem c06_pathlt_docorder (root : PTree) (p q : List Nat) (hp : p ∈ docOrder root) (hq : q ∈ docOrder root) :
    Nav.pathLt p q = true ↔ ∃ l₁ l₂ l₃, docOrder root = l₁ ++ p :: l₂ ++ q :: l₃ := by
  exact sorted_before_iff pathLt_irrefl pathLt_asymm (docOrder_sorted root) hp hq

/-- non-vacuity: `//a[@k="1"]/text() | a[2]` from the root (AST written out) -/
example : evaluate (.tag 0 "" "r" [] [.tag 1 "" "a" [⟨"", "k", "1".toList⟩] [.text 2 "t".toList], .comment 3 [],
                    .tag 4 "" "a" [] []]) [("", "")] []
    [{ absolute := true, steps := [
        { axis := "descendant_or_self", test := .type "TagNode", preds := [] },
        { axis := "child", test := .name none "a".toList,
          preds := [.binop "=" (.attrVal none "k".toList) (.str "1".toList)] },
        { axis := "child", test := .type "TextNode", preds := [] }] },
     { absolute := false, steps := [
        { axis := "child", test := .name none "a".toList,
          preds := [.binop "=" (.func "position".toList []) (.num 2)] }] }]
    = .ok [.at [0, 0], .at [2]] := eq_ok_of_toOption (by decide +kernel)

/-! ## the mechanism computes the XPath 1.0 denotation

`Model/XPath/Spec.lean` states what a location path means in the words of the recommendation (axes as
relations, proximity order, predicates numbered within the current node list, composition, union), with
the three established deviations built in.  The theorems below say that the mechanism model, whenever
it returns, returns exactly that.

Hypotheses that recur:
* the context node is a node of the tree (`ctx ∈ docNodes root`, for paths `ctx ∈ docOrder root`);
* `DocTypeOk s c`: step `s` does not test the root node with `text()` / `comment()` /
  `processing-instruction()` — recorded finding `document-node-type-tests` (the `_DocumentNode` passes
  every node type test); where it shows, mechanism and specification differ (counterexample below).
  `stepDocTypeFree` is a check on the steps alone that implies it. -/

/-- every axis generator yields the nodes related to the context node by the axis relation, in proximity
    order (document order for forward axes, reverse document order for reverse axes) -/
theorem c06_axis_eq_denotation (root : PTree) (axis : String) (ctx : XNode) (l : List XNode)
    (hctx : ctx ∈ docNodes root) (h : axisNodes root axis ctx = .ok l) :
    l = axisDenote root axis ctx ∧
    (∀ n, n ∈ l ↔ (n ∈ docNodes root ∧ axisRel axis ctx n = true)) := by
  have e := axisNodes_eq_denote root axis ctx l hctx h
  subst e
  exact ⟨rfl, mem_axisDenote root axis ctx⟩

/-- a location step at one context node: the returned LIST is the denotation — the same nodes in the
    same (proximity) order, each once -/
theorem c06_step_eq_denotation (root : PTree) (env : NsEnv) (s : Step) (ctx : XNode) (r : List XNode)
    (hctx : ctx ∈ docNodes root) (hd : DocTypeOk s ctx)
    (h : evalStepAt root env s ctx = .ok r) :
    r = stepDenote root env s ctx ∧ r.Nodup := by
  have e := evalStepAt_eq_denote root env s ctx r hctx hd h
  subst e
  exact ⟨rfl, stepDenote_nodup root env s ctx⟩

/-- a location step over a node set: as a SET the union of the denotations over its members, each node
    once (the order is that of first occurrence and is not part of the denotation) -/
theorem c06_step_set_eq_denotation (root : PTree) (env : NsEnv) (s : Step) (ns r : List XNode)
    (hv : ∀ c ∈ ns, c ∈ docNodes root) (hd : ∀ c ∈ ns, DocTypeOk s c)
    (h : evalStep root env s [] ns = .ok r) :
    (∀ m, m ∈ r ↔ ∃ c ∈ ns, m ∈ stepDenote root env s c) ∧ r.Nodup := by
  exact evalStep_eq_denote root env s ns r hv hd h

/-- a location path: the result is, as a set, the denotation, and names every node once -/
theorem c06_path_eq_denotation (root : PTree) (env : NsEnv) (ctx : List Nat) (p : Path) (r : List XNode)
    (hctx : ctx ∈ docOrder root)
    (hd : ∀ s c, Visits root env p.steps (pathStart ctx p) s c → DocTypeOk s c)
    (h : evalPath root env ctx p = .ok r) :
    (∀ n, n ∈ r ↔ n ∈ pathDenote root env ctx p) ∧ r.Nodup := by
  exact evalPath_eq_denote root env ctx p r hctx hd h

/-- membership in the denotation of a path is the existence of a chain of context nodes (§2.1) -/
theorem c06_path_denotation_chain (root : PTree) (env : NsEnv) (ctx : List Nat) (p : Path) (n : XNode) :
    n ∈ pathDenote root env ctx p ↔ Selects root env p.steps (pathStart ctx p) n := by
  exact mem_pathDenote root env ctx p n

/-- a whole expression: the result is, as a set, the union of the paths' denotations, names every node
    once, does not contain the root node, and `in_document_order()` of it is the denotation's tree
    nodes listed in document order -/
theorem c06_expr_eq_denotation (root : PTree) (env : NsEnv) (ctx : List Nat) (x : XExpr) (r : List XNode)
    (hctx : ctx ∈ docOrder root)
    (hd : ∀ p ∈ x, ∀ s c, Visits root env p.steps (pathStart ctx p) s c → DocTypeOk s c)
    (h : evaluate root env ctx x = .ok r) :
    (∀ n, n ∈ r ↔ n ∈ exprDenote root env ctx x) ∧ r.Nodup ∧ XNode.doc ∉ r ∧
    Nav.sortPaths (addrsOf r) = exprDenoteSorted root env ctx x := by
  obtain ⟨hm, hn, hdoc⟩ := evaluate_eq_denote root env ctx x r hctx hd h
  exact ⟨hm, hn, hdoc, sortPaths_eq_denoteSorted root env ctx x r hctx hm⟩

/-- the same with a condition on the steps alone: no step combines `text()` / `comment()` /
    `processing-instruction()` with an axis that can contain the root node -/
theorem c06_expr_eq_denotation_of_free (root : PTree) (env : NsEnv) (ctx : List Nat) (x : XExpr) (r : List XNode)
    (hctx : ctx ∈ docOrder root)
    (hfree : ∀ p ∈ x, ∀ s ∈ p.steps, stepDocTypeFree s = true)
    (h : evaluate root env ctx x = .ok r) :
    (∀ n, n ∈ r ↔ n ∈ exprDenote root env ctx x) ∧ r.Nodup ∧ XNode.doc ∉ r ∧
    Nav.sortPaths (addrsOf r) = exprDenoteSorted root env ctx x := by
  refine c06_expr_eq_denotation root env ctx x r hctx (fun p hp s c hv => ?_) h
  exact docTypeOk_of_free s c (hfree p hp s (visits_mem root env _ _ s c hv))

/-- the denotation itself is well-formed: a step selects nodes of the document, each once, as a
    sub-sequence of the axis; everything a path selects is a node of the document -/
theorem c06_denotation_wf (root : PTree) (env : NsEnv) (s : Step) (c : XNode) :
    (stepDenote root env s c).Sublist (axisDenote root s.axis c) ∧ (stepDenote root env s c).Nodup ∧
    (∀ n ∈ stepDenote root env s c, n ∈ docNodes root) ∧
    (∀ ss m, c ∈ docNodes root → Selects root env ss c m → m ∈ docNodes root) := by
  exact ⟨stepDenote_sublist root env s c, stepDenote_nodup root env s c,
    fun n hn => stepDenote_subset_docNodes root env s c n hn,
    fun ss m hc hs => selects_subset_docNodes root env ss c m hc hs⟩

/-- the auxiliary relations of the specification are what their names say: `docNodes` lists the root
    node and the existing addresses, `docBefore` is the order of that listing, the ancestors are the
    parent and the parent's ancestors -/
theorem c06_spec_relations (root : PTree) :
    (∀ p, XNode.at p ∈ docNodes root ↔ (getAtP root p).isSome) ∧ XNode.doc ∈ docNodes root ∧
    (docNodes root).Nodup ∧
    (∀ a b, a ∈ docNodes root → b ∈ docNodes root →
      (docBefore a b = true ↔ ∃ l₁ l₂ l₃, docNodes root = l₁ ++ a :: l₂ ++ b :: l₃)) ∧
    (∀ a n, isAncestorOf a n = true ↔
      (parentOf n = some a ∨ ∃ m, parentOf n = some m ∧ isAncestorOf a m = true)) := by
  refine ⟨fun p => ?_, doc_mem_docNodes root, docNodes_nodup root,
    fun a b ha hb => docBefore_iff root a b ha hb, isAncestorOf_unfold⟩
  rw [at_mem_docNodes, mem_docOrder]

/-! ### when the mechanism raises

`StepSafe root env s c` (Spec.lean) lists the marked situations: an axis the `_DocumentNode` does not
offer (recorded finding `document-node-axes`), an unbound prefix in the name test
(`XPathEvaluationError`), `processing-instruction('t')` applied to the root node, a predicate whose
evaluation raises (recorded findings on predicate values).  Outside them nothing raises, except for the
final assertion that the root node is not in the result (recorded finding `parent-of-root`). -/

/-- a step at one context node returns outside the marked situations -/
theorem c06_step_total (root : PTree) (env : NsEnv) (s : Step) (c : XNode) (hc : c ∈ docNodes root)
    (hs : StepSafe root env s c) (hd : DocTypeOk s c) :
    ∃ r, evalStepAt root env s c = .ok r := by
  exact evalStepAt_ok root env s c hc hs hd

/-- a path returns if none of the (step, context node) pairs it visits is a marked situation -/
theorem c06_path_total (root : PTree) (env : NsEnv) (ctx : List Nat) (p : Path) (hctx : ctx ∈ docOrder root)
    (hs : ∀ s c, Visits root env p.steps (pathStart ctx p) s c → (StepSafe root env s c ∧ DocTypeOk s c)) :
    ∃ r, evalPath root env ctx p = .ok r := by
  exact evalSteps_ok root env p.steps [pathStart ctx p]
    (fun c hc => by rw [List.mem_singleton] at hc; subst hc; exact pathStart_mem_docNodes root ctx p hctx)
    (fun c hc => by rw [List.mem_singleton] at hc; subst hc; exact hs)

/-- an expression whose paths visit no marked situation returns if and only if its denotation does not
    contain the root node -/
theorem c06_expr_total (root : PTree) (env : NsEnv) (ctx : List Nat) (x : XExpr) (hctx : ctx ∈ docOrder root)
    (hs : ∀ p ∈ x, ∀ s c, Visits root env p.steps (pathStart ctx p) s c → (StepSafe root env s c ∧ DocTypeOk s c)) :
    (∃ r, evaluate root env ctx x = .ok r) ↔ XNode.doc ∉ exprDenote root env ctx x := by
  have hpath : ∀ p ∈ x, ∃ l, evalPath root env ctx p = .ok l ∧ ∀ n, n ∈ l ↔ n ∈ pathDenote root env ctx p := by
    intro p hp
    obtain ⟨l, hl⟩ := c06_path_total root env ctx p hctx (hs p hp)
    exact ⟨l, hl, (evalPath_eq_denote root env ctx p l hctx (fun s c hv => (hs p hp s c hv).2) hl).1⟩
  constructor
  · rintro ⟨r, hr⟩ hdoc
    obtain ⟨hm, _, hnd⟩ := evaluate_eq_denote root env ctx x r hctx (fun p hp s c hv => (hs p hp s c hv).2) hr
    exact hnd ((hm _).2 hdoc)
  · intro hdoc
    refine evalPaths_ok root env ctx [] x (fun p hp => ?_)
    obtain ⟨l, hl, hm⟩ := hpath p hp
    refine ⟨l, hl, fun hd => hdoc ?_⟩
    unfold exprDenote
    rw [List.mem_flatMap]
    exact ⟨p, hp, (hm _).1 hd⟩

/-- a check on the expression alone: relative paths from a tree node whose steps cannot reach the root
    node (`stepAvoidsDoc`: a name test, or an axis other than ancestor / ancestor-or-self / parent), with
    existing axes, bound prefixes and predicates that have values, always return — and then
    `c06_expr_eq_denotation` applies (its hypothesis holds as well) -/
theorem c06_expr_total_tree_paths (root : PTree) (env : NsEnv) (ctx : List Nat) (x : XExpr)
    (hctx : ctx ∈ docOrder root)
    (hrel : ∀ p ∈ x, p.absolute = false)
    (hsteps : ∀ p ∈ x, ∀ s ∈ p.steps, s.axis ∈ realAxes ∧ stepAvoidsDoc s = true ∧
      checkPrefix env (testPrefix s.test) = .ok () ∧
      ∀ pred ∈ s.preds, ∀ cx, ∃ v, evalExpr root env cx pred = .ok v) :
    (∃ r, evaluate root env ctx x = .ok r) ∧
    (∀ p ∈ x, ∀ s c, Visits root env p.steps (pathStart ctx p) s c → DocTypeOk s c) := by
  have hstart : ∀ p ∈ x, pathStart ctx p ≠ XNode.doc := by
    intro p hp
    simp [pathStart, hrel p hp]
  have hsafe : ∀ p ∈ x, ∀ s c, Visits root env p.steps (pathStart ctx p) s c →
      (StepSafe root env s c ∧ DocTypeOk s c) := by
    intro p hp s c hv
    have hs := hsteps p hp s (visits_mem root env _ _ s c hv)
    exact stepSafe_of_avoidsDoc root env s c
      (visits_ne_doc root env p.steps _ s c (hstart p hp) (fun s' hs' => (hsteps p hp s' hs').2.1) hv)
      hs.1 hs.2.1 hs.2.2.1 hs.2.2.2
  refine ⟨(c06_expr_total root env ctx x hctx hsafe).2 (fun hdoc => ?_), fun p hp s c hv => (hsafe p hp s c hv).2⟩
  obtain ⟨p, hp, hsel⟩ := (mem_exprDenote root env ctx x _).1 hdoc
  exact selects_ne_doc root env p.steps _ _ (hstart p hp) (fun s' hs' => (hsteps p hp s' hs').2.1) hsel rfl

/-! ### the denotation and the mechanism on a concrete tree

`<r><a k="1"/><!----><a/><b/><a k="2">t</a></r>`, no namespaces -/

private def exTree : PTree :=
  .tag 0 "" "r" [] [.tag 1 "" "a" [⟨"", "k", "1".toList⟩] [], .comment 2 [], .tag 3 "" "a" [] [],
                    .tag 4 "" "b" [] [], .tag 5 "" "a" [⟨"", "k", "2".toList⟩] [.text 6 "t".toList]]
private def exEnv : NsEnv := [("", "")]
private def posEq (k : Nat) : Expr := .binop "=" (.func "position".toList []) (.num k)

/-- `preceding-sibling::*[1]` from `<b/>`: a reverse axis numbers from the context node backwards -/
private def exRev : Path :=
  { absolute := false, steps := [{ axis := "preceding_sibling", test := .anyName none, preds := [posEq 1] }] }
example : axisDenote exTree "preceding_sibling" (.at [3]) = [.at [2], .at [1], .at [0]] := by decide +kernel
example : pathDenote exTree exEnv [3] exRev = [.at [2]] := by decide +kernel
example : evalPath exTree exEnv [3] exRev = .ok [.at [2]] := eq_ok_of_toOption (by decide +kernel)

/-- `a[@k][2]` from the root: the second predicate counts among the survivors of the first -/
private def exStack : Path :=
  { absolute := false, steps := [{ axis := "child", test := .name none "a".toList,
                                   preds := [.hasAttr none "k".toList, posEq 2] }] }
example : pathDenote exTree exEnv [] exStack = [.at [4]] := by decide +kernel
example : evalPath exTree exEnv [] exStack = .ok [.at [4]] := eq_ok_of_toOption (by decide +kernel)

/-- `a | //*[@k]` from the root: a union with overlap — the denotation names `a[1]`, `a[3]` twice (it is
    read as a set), the mechanism once -/
private def exUnion : XExpr :=
  [{ absolute := false, steps := [{ axis := "child", test := .name none "a".toList, preds := [] }] },
   { absolute := true, steps := [{ axis := "descendant_or_self", test := .type "TagNode", preds := [] },
                                 { axis := "child", test := .anyName none, preds := [.hasAttr none "k".toList] }] }]
theorem exUnion_denote :
    exprDenote exTree exEnv [] exUnion = [.at [0], .at [2], .at [4], .at [0], .at [4]] := by decide +kernel
theorem exUnion_evaluate : evaluate exTree exEnv [] exUnion = .ok [.at [0], .at [2], .at [4]] :=
  eq_ok_of_toOption (by decide +kernel)
example : exprDenote exTree exEnv [] exUnion = [.at [0], .at [2], .at [4], .at [0], .at [4]] := exUnion_denote
example : evaluate exTree exEnv [] exUnion = .ok [.at [0], .at [2], .at [4]] := exUnion_evaluate
example : ∀ n ∈ docNodes exTree, (n ∈ [XNode.at [0], .at [2], .at [4]] ↔ n ∈ exprDenote exTree exEnv [] exUnion) := by
  rw [exUnion_denote]
  decide +kernel
example : exprDenoteSorted exTree exEnv [] exUnion = [[0], [2], [4]] := by
  rw [exprDenoteSorted, exUnion_denote]
  decide +kernel
/-- the hypotheses of `c06_expr_eq_denotation_of_free` are met here -/
example : (∀ n, n ∈ [XNode.at [0], .at [2], .at [4]] ↔ n ∈ exprDenote exTree exEnv [] exUnion) ∧
    Nav.sortPaths (addrsOf [XNode.at [0], .at [2], .at [4]]) = exprDenoteSorted exTree exEnv [] exUnion :=
  have h := c06_expr_eq_denotation_of_free exTree exEnv [] exUnion _ (by decide +kernel) (by decide +kernel)
    exUnion_evaluate
  ⟨h.1, h.2.2.2⟩

/-- where `DocTypeOk` fails (recorded finding `document-node-type-tests`): `parent::comment()/*` from the
    root element.  XPath 1.0: the parent of the root element is the root node, which is not a comment —
    nothing is selected; the mechanism lets the `_DocumentNode` pass and selects the root element. -/
private def exDocType : Path :=
  { absolute := false, steps := [{ axis := "parent", test := .type "CommentNode", preds := [] },
                                 { axis := "child", test := .anyName none, preds := [] }] }
example : pathDenote exTree exEnv [] exDocType = [] := by decide +kernel
example : evalPath exTree exEnv [] exDocType = .ok [.at []] := eq_ok_of_toOption (by decide +kernel)
example : ¬ DocTypeOk { axis := "parent", test := .type "CommentNode", preds := [] } (.at []) := by
  intro h
  exact absurd (h "CommentNode" rfl (by decide +kernel)) (by decide +kernel)

/-! ## the VALUE of a predicate against XPath 1.0

The theorems above take the value of a predicate expression from the mechanism (`predHolds`).
`Model/XPath/PredSpec.lean` states what XPath 1.0 (§2.4, §3.4, §4) says that value is (`predSpec`), and
`PredSafe` marks the situations in which the mechanism is known to differ, one condition per deviation:

* `attrCompare` — recorded finding `attribute-compare-absent`;
* `attrBoolean` — recorded finding `not-boolean-empty-attribute`;
* `numberPred` — recorded finding `number-predicate-not-position`;
* `attrFunction` — recorded finding `attribute-function-on-non-tag`;
* `andOr`, `boolCompare` — two further deviations (`[1 and 2]`, `[not(@a) = 2]`);
* `shapeTop`, `shape` — no deviation: the form in which the parser renders `@name` (`attrToValue`).

The unrestricted statement is false (`c06_pred_deviation_*` below), hence `_partial`. -/

/-- outside the marked situations, wherever XPath 1.0 gives the predicate a value the mechanism returns
    without raising, and the truthiness of what it returns is that value -/
theorem c06_pred_xpath1_value_partial (root : PTree) (env : NsEnv) (ctx : Ctx) (e : Expr) (b : Bool)
    (hs : PredSafe root env ctx e) (h : predSpec root env ctx e = some b) :
    ∃ v, evalExpr root env ctx e = .ok v ∧ truthy v = b := by
  exact evalExpr_truthy_of_predSafe root env ctx e b hs h

/-- … so for predicates of the supported language (`predSpec` has a value) mechanism and XPath 1.0 agree
    exactly -/
theorem c06_pred_eq_xpath1_partial (root : PTree) (env : NsEnv) (ctx : Ctx) (e : Expr) (b : Bool)
    (hs : PredSafe root env ctx e) (hd : (predSpec root env ctx e).isSome = true) :
    (evalExpr root env ctx e).map truthy = .ok b ↔ predSpec root env ctx e = some b := by
  obtain ⟨b', hb'⟩ := Option.isSome_iff_exists.1 hd
  obtain ⟨v, hv, ht⟩ := evalExpr_truthy_of_predSafe root env ctx e b' hs hb'
  rw [hv, hb', ← ht]
  simp [Except.map]

/-- as a statement about `predHolds` (Spec.lean), the value the step denotation uses -/
theorem c06_predHolds_eq_xpath1_partial (root : PTree) (env : NsEnv) (pred : Expr) (n : XNode) (pos size : Nat)
    (hs : PredSafe root env { node := n, position := pos, size := size } pred)
    (hd : (predSpec root env { node := n, position := pos, size := size } pred).isSome = true) :
    predHolds root env pred n pos size = predHoldsXPath1 root env pred n pos size := by
  exact predHolds_eq_xpath1 root env pred n pos size hs hd

/-- `contains` in the specification is "occurs as a contiguous block" -/
theorem c06_spec_contains (sub s : Str) : isInfix sub s = true ↔ ∃ pre post, s = pre ++ sub ++ post := by
  induction s with
  | nil =>
    simp only [isInfix, List.isEmpty_iff]
    constructor
    · rintro rfl; exact ⟨[], [], rfl⟩
    · rintro ⟨pre, post, h⟩
      have h' := congrArg List.length h
      simp at h'
      exact List.eq_nil_of_length_eq_zero (by omega)
  | cons ch cs ih =>
    simp only [isInfix, Bool.or_eq_true, ih]
    constructor
    · rintro (h | ⟨pre, post, h⟩)
      · obtain ⟨t, ht⟩ := List.isPrefixOf_iff_prefix.1 h
        exact ⟨[], t, by simp [ht]⟩
      · exact ⟨ch :: pre, post, by simp [h]⟩
    · rintro ⟨pre, post, h⟩
      cases pre with
      | nil =>
        left
        exact List.isPrefixOf_iff_prefix.2 ⟨post, by simpa using h.symm⟩
      | cons p pre' =>
        right
        simp only [List.cons_append, List.cons.injEq] at h
        exact ⟨pre', post, h.2⟩

/-! ### where `PredSafe` fails: mechanism ≠ XPath 1.0

`<r k="va" e="">t</r>`, context node the root element (position 1 of 2), resp. its text child -/

private def pvTree : PTree := .tag 0 "" "r" [⟨"", "k", "va".toList⟩, ⟨"", "e", []⟩] [.text 1 "t".toList]
private def pvEnv : NsEnv := [("", "")]
private def pvCtx : Ctx := { node := .at [], position := 1, size := 2 }
private def pvText : Ctx := { node := .at [0], position := 1, size := 2 }
private def att (n : String) : Expr := .attrVal none n.toList
private def lit (s : String) : Expr := .str s.toList
private def call (f : String) (args : List Expr) : Expr := .func f.toList args

/-- `attribute-compare-absent`: `[@x != '1']` on an element without `x` — XPath 1.0 false, mechanism true -/
theorem c06_pred_deviation_attr_ne_absent :
    predSpec pvTree pvEnv pvCtx (.binop "!=" (att "x") (lit "1")) = some false ∧
    (evalExpr pvTree pvEnv pvCtx (.binop "!=" (att "x") (lit "1"))).map truthy = .ok true ∧
    ¬ PredSafe pvTree pvEnv pvCtx (.binop "!=" (att "x") (lit "1")) := by
  refine ⟨by decide +kernel, eq_ok_of_toOption (by decide +kernel), fun h => ?_⟩
  exact absurd h.attrCompare (by decide +kernel)

/-- `attribute-compare-absent`: `[@x = '']` on an element without `x` — XPath 1.0 false, mechanism true -/
theorem c06_pred_deviation_attr_eq_empty_absent :
    predSpec pvTree pvEnv pvCtx (.binop "=" (att "x") (lit "")) = some false ∧
    (evalExpr pvTree pvEnv pvCtx (.binop "=" (att "x") (lit ""))).map truthy = .ok true ∧
    ¬ PredSafe pvTree pvEnv pvCtx (.binop "=" (att "x") (lit "")) := by
  refine ⟨by decide +kernel, eq_ok_of_toOption (by decide +kernel), fun h => ?_⟩
  exact absurd h.attrCompare (by decide +kernel)

/-- `not-boolean-empty-attribute`: `[not(@e)]` with `e=""` — XPath 1.0 false (the attribute is there),
    mechanism true -/
theorem c06_pred_deviation_not_empty_attr :
    predSpec pvTree pvEnv pvCtx (call "not" [att "e"]) = some false ∧
    (evalExpr pvTree pvEnv pvCtx (call "not" [att "e"])).map truthy = .ok true ∧
    ¬ PredSafe pvTree pvEnv pvCtx (call "not" [att "e"]) := by
  refine ⟨by decide +kernel, eq_ok_of_toOption (by decide +kernel), fun h => ?_⟩
  exact absurd h.attrBoolean (by decide +kernel)

/-- `number-predicate-not-position`: `[last()]` at position 1 of 2 — XPath 1.0 false, mechanism true -/
theorem c06_pred_deviation_last :
    predSpec pvTree pvEnv pvCtx (call "last" []) = some false ∧
    (evalExpr pvTree pvEnv pvCtx (call "last" [])).map truthy = .ok true ∧
    ¬ PredSafe pvTree pvEnv pvCtx (call "last" []) := by
  refine ⟨by decide +kernel, eq_ok_of_toOption (by decide +kernel), fun h => ?_⟩
  exact absurd h.numberPred (by decide +kernel)

/-- `attribute-function-on-non-tag`: `[contains(@k, 'a')]` on a text node — XPath 1.0 false (the attribute
    axis of a text node is empty, `contains('', 'a')`), the mechanism raises -/
theorem c06_pred_deviation_contains_on_text :
    predSpec pvTree pvEnv pvText (call "contains" [att "k", lit "a"]) = some false ∧
    evalExpr pvTree pvEnv pvText (call "contains" [att "k", lit "a"]) = .error (.py "TypeError" "function contains") ∧
    ¬ PredSafe pvTree pvEnv pvText (call "contains" [att "k", lit "a"]) := by
  refine ⟨by decide +kernel, eq_error_of_beq (by decide +kernel), fun h => ?_⟩
  exact absurd h.attrFunction (by decide +kernel)

/-- further deviation (`and-or-non-boolean-operand`): `[1 and 2]` — XPath 1.0 true, mechanism false
    (bitwise `1 & 2 = 0`) -/
theorem c06_pred_deviation_and_numbers :
    predSpec pvTree pvEnv pvCtx (.binop "and" (.num 1) (.num 2)) = some true ∧
    (evalExpr pvTree pvEnv pvCtx (.binop "and" (.num 1) (.num 2))).map truthy = .ok false ∧
    ¬ PredSafe pvTree pvEnv pvCtx (.binop "and" (.num 1) (.num 2)) := by
  refine ⟨by decide +kernel, eq_ok_of_toOption (by decide +kernel), fun h => ?_⟩
  exact absurd h.andOr (by decide +kernel)

/-- further deviation (`boolean-compared-with-non-boolean`): `[not(@x) = 2]` on an element without `x` —
    XPath 1.0 true (`boolean(2)` is true), mechanism false (`True == 2`) -/
theorem c06_pred_deviation_boolean_eq_number :
    predSpec pvTree pvEnv pvCtx (.binop "=" (call "not" [att "x"]) (.num 2)) = some true ∧
    (evalExpr pvTree pvEnv pvCtx (.binop "=" (call "not" [att "x"]) (.num 2))).map truthy = .ok false ∧
    ¬ PredSafe pvTree pvEnv pvCtx (.binop "=" (call "not" [att "x"]) (.num 2)) := by
  refine ⟨by decide +kernel, eq_ok_of_toOption (by decide +kernel), fun h => ?_⟩
  exact absurd h.boolCompare (by decide +kernel)

/-! ### non-vacuity: `PredSafe` holds and both sides have the same value -/

/-- `[@k="va" and position()<3]` -/
example : PredSafe pvTree pvEnv pvCtx
      (.binop "and" (.binop "=" (att "k") (lit "va")) (.binop "<" (call "position" []) (.num 3))) ∧
    predSpec pvTree pvEnv pvCtx
      (.binop "and" (.binop "=" (att "k") (lit "va")) (.binop "<" (call "position" []) (.num 3))) = some true ∧
    (evalExpr pvTree pvEnv pvCtx
      (.binop "and" (.binop "=" (att "k") (lit "va")) (.binop "<" (call "position" []) (.num 3)))).map truthy
      = .ok true := ⟨by decide +kernel, by decide +kernel, eq_ok_of_toOption (by decide +kernel)⟩

/-- `[not(@k="v")]` -/
theorem pvNot : PredSafe pvTree pvEnv pvCtx (call "not" [.binop "=" (att "k") (lit "v")]) ∧
    predSpec pvTree pvEnv pvCtx (call "not" [.binop "=" (att "k") (lit "v")]) = some true :=
  ⟨by decide +kernel, by decide +kernel⟩
example : PredSafe pvTree pvEnv pvCtx (call "not" [.binop "=" (att "k") (lit "v")]) ∧
    predSpec pvTree pvEnv pvCtx (call "not" [.binop "=" (att "k") (lit "v")]) = some true ∧
    (evalExpr pvTree pvEnv pvCtx (call "not" [.binop "=" (att "k") (lit "v")])).map truthy = .ok true :=
  ⟨pvNot.1, pvNot.2, eq_ok_of_toOption (by decide +kernel)⟩

/-- `[contains(@k,"a") or starts-with(@k,"b")]` -/
example : PredSafe pvTree pvEnv pvCtx
      (.binop "or" (call "contains" [att "k", lit "a"]) (call "starts-with" [att "k", lit "b"])) ∧
    predSpec pvTree pvEnv pvCtx
      (.binop "or" (call "contains" [att "k", lit "a"]) (call "starts-with" [att "k", lit "b"])) = some true ∧
    (evalExpr pvTree pvEnv pvCtx
      (.binop "or" (call "contains" [att "k", lit "a"]) (call "starts-with" [att "k", lit "b"]))).map truthy
      = .ok true := ⟨by decide +kernel, by decide +kernel, eq_ok_of_toOption (by decide +kernel)⟩

/-- `[2]`, which the parser renders as `[position() = 2]`: false at position 1 -/
example : PredSafe pvTree pvEnv pvCtx (.binop "=" (call "position" []) (.num 2)) ∧
    predSpec pvTree pvEnv pvCtx (.binop "=" (call "position" []) (.num 2)) = some false ∧
    (evalExpr pvTree pvEnv pvCtx (.binop "=" (call "position" []) (.num 2))).map truthy = .ok false :=
  ⟨by decide +kernel, by decide +kernel, eq_ok_of_toOption (by decide +kernel)⟩

/-- `[@k]` (a whole predicate `@name` is `hasAttr`) and the same on the text child -/
example : PredSafe pvTree pvEnv pvCtx (.hasAttr none "k".toList) ∧
    predSpec pvTree pvEnv pvCtx (.hasAttr none "k".toList) = some true ∧
    (evalExpr pvTree pvEnv pvCtx (.hasAttr none "k".toList)).map truthy = .ok true ∧
    PredSafe pvTree pvEnv pvText (.hasAttr none "k".toList) ∧
    predSpec pvTree pvEnv pvText (.hasAttr none "k".toList) = some false :=
  ⟨by decide +kernel, by decide +kernel, eq_ok_of_toOption (by decide +kernel), by decide +kernel, by decide +kernel⟩

/-- the theorem applied: the hypotheses of `c06_pred_eq_xpath1_partial` are met -/
example : (evalExpr pvTree pvEnv pvCtx (call "not" [.binop "=" (att "k") (lit "v")])).map truthy = .ok true :=
  (c06_pred_eq_xpath1_partial pvTree pvEnv pvCtx _ true pvNot.1 (by rw [pvNot.2]; rfl)).2 pvNot.2

/-! ### lifted to location steps

`stepDenoteXPath1` (PredSpec.lean) is `stepDenote` with the predicate values of XPath 1.0 in place of the
mechanism's.  If every predicate of the step, on every candidate (node on the axis passing the node test),
is outside the marked situations and has an XPath 1.0 value, the mechanism's result is that denotation:
mechanism = `Spec.lean` denotation = XPath 1.0 including predicate values (with the three established
deviations of `Spec.lean`). -/

theorem c06_step_eq_xpath1_partial (root : PTree) (env : NsEnv) (s : Step) (ctx : XNode) (r : List XNode)
    (hctx : ctx ∈ docNodes root) (hd : DocTypeOk s ctx)
    (hp : ∀ pred ∈ s.preds, ∀ n ∈ (axisDenote root s.axis ctx).filter (testDenote root env s.test), ∀ pos size,
      PredSafe root env { node := n, position := pos, size := size } pred ∧
      (predSpec root env { node := n, position := pos, size := size } pred).isSome = true)
    (h : evalStepAt root env s ctx = .ok r) :
    r = stepDenoteXPath1 root env s ctx ∧ r.Nodup := by
  obtain ⟨e, hn⟩ := c06_step_eq_denotation root env s ctx r hctx hd h
  exact ⟨e.trans (stepDenote_eq_xpath1 root env s ctx hp), hn⟩

/-- non-vacuity: `child::a[@k="2"]` from the root of `exTree` (candidates: three `a`, one without `k`) -/
private def exStepK2 : Step :=
  { axis := "child", test := .name none "a".toList, preds := [.binop "=" (att "k") (lit "2")] }
example : evalStepAt exTree exEnv exStepK2 (.at []) = .ok [.at [4]] ∧
    stepDenoteXPath1 exTree exEnv exStepK2 (.at []) = [.at [4]] :=
  ⟨eq_ok_of_toOption (by decide +kernel), by decide +kernel⟩
example : ∀ pred ∈ exStepK2.preds,
    ∀ n ∈ (axisDenote exTree exStepK2.axis (.at [])).filter (testDenote exTree exEnv exStepK2.test), ∀ pos size,
      PredSafe exTree exEnv { node := n, position := pos, size := size } pred ∧
      (predSpec exTree exEnv { node := n, position := pos, size := size } pred).isSome = true := by
  intro pred hpred n hn pos size
  rw [show (axisDenote exTree exStepK2.axis (.at [])).filter (testDenote exTree exEnv exStepK2.test) =
    [.at [0], .at [2], .at [4]] by decide +kernel] at hn
  have hpred' : pred ∈ [Expr.binop "=" (att "k") (lit "2")] := hpred
  simp only [List.mem_singleton] at hpred'
  subst hpred'
  simp only [List.mem_cons, List.not_mem_nil, or_false] at hn
  rcases hn with rfl | rfl | rfl <;> exact ⟨⟨rfl, rfl, rfl, rfl, rfl, rfl, rfl, rfl⟩, rfl⟩

end Delb.XPath
