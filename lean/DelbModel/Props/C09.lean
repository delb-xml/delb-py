import DelbModel.Model.Guards
import DelbModel.Lemmas.Guards
import DelbModel.Lemmas.GuardOrder
import DelbModel.Lemmas.General
/-!
# C09 — A node lives in at most one place; rejected edits change nothing

That a rejected call leaves the trees untouched is a statement about the ORDER of checks and
mutations in the Python methods.  It is decided here over a summary of every editing entry point
that the translator re-derives from /repo's source on every run (`Generated/GuardSkeleton.lean`,
`c09_source_guards_first`), together with the theorem about the event machine
(`c09_rejected_before_any_change`); the implementation is additionally explored with before/after
dumps of all trees, see DESIGN.md.
-/
namespace Delb.Guards
open Delb.Edit

/-- in a forest of parentless trees a node is offerable (no parent, no siblings, not a document's
    root) exactly when it is the root of its group and that group is not the document's root -/
theorem c09_offerable_iff (s : StateA) (docRoot : Option Nat) (a : Addr) (info : NodeInfo)
    (h : infoAt s docRoot a = some info) :
    prepareNewRelative info = none ↔ a.path = [] ∧ docRoot ≠ some a.g := by
  unfold infoAt at h
  split at h
  · split at h
    · simp at h
    · simp only [Option.some.injEq] at h
      subst h
      cases hp : a.path with
      | nil => simp [prepareNewRelative]
      | cons x q => simp [prepareNewRelative]
  · simp at h

/-- the root of a document is refused by every adding call with InvalidOperation, although it has
    neither a parent nor siblings: it lives in its document (`_prepare_new_relative` checks this since commit
    313e3eb of /repo; without the check the node is moved into the other tree while it stays its document's root) -/
theorem c09_document_root_not_offerable (target offered : NodeInfo) (hd : offered.isDocRoot = true) :
    prepareNewRelative offered = some .invalidOperation ∧
    addSiblingGuard target offered false = some .invalidOperation ∧
    addChildGuard offered = some .invalidOperation := by
  have hprep : prepareNewRelative offered = some .invalidOperation := by
    simp [prepareNewRelative, hd]
  exact ⟨hprep, by simp [addSiblingGuard, hprep], by simp [addChildGuard, hprep]⟩

/-- a node that has a parent is refused by every adding call with InvalidOperation -/
theorem c09_attached_rejected (target offered : NodeInfo) (isDef : Bool) (hp : offered.hasParent = true) :
    (isDef = false → addSiblingGuard target offered isDef = some .invalidOperation) ∧
    addChildGuard offered = some .invalidOperation ∧
    (target.hasParent = true → replaceGuard target offered false = some .invalidOperation) ∧
    (∀ i : Int, 0 ≤ i → i ≤ target.nkids → insertGuard target offered i = some .invalidOperation) ∧
    (∀ i : Int, (target.nkids = 0 ∧ i = 0) ∨ (0 ≤ i ∧ i < target.nkids) →
        setItemGuard target offered i = some .invalidOperation) := by
  have hprep : prepareNewRelative offered = some .invalidOperation := by
    simp [prepareNewRelative, hp]
  refine ⟨?_, ?_, ?_, ?_, ?_⟩
  · intro h; simp [addSiblingGuard, h, hprep]
  · simp [addChildGuard, hprep]
  · intro h; simp [replaceGuard, addSiblingGuard, h, hprep]
  · intro i h0 h1
    simp only [insertGuard, hprep]
    rw [if_neg (by omega), if_neg (by omega)]
  · intro i h
    simp only [setItemGuard, addChildGuard, hprep]
    split
    · rfl
    · rcases h with ⟨h1, h2⟩ | ⟨h1, h2⟩
      · simp_all
      · simp [h1, h2]

/-- detaching a document's root, replacing a root and retaining the children of a parentless
    node raise InvalidOperation -/
theorem c09_root_operations (target offered : NodeInfo) (isDef : Bool) :
    (target.kind = .tag → target.isDocRoot = true → ∀ r, detachGuard target r = some .invalidOperation) ∧
    (target.hasParent = false → replaceGuard target offered isDef = some .invalidOperation) ∧
    (target.kind = .tag → target.hasParent = false → detachGuard target true = some .invalidOperation) := by
  refine ⟨?_, ?_, ?_⟩
  · intro hk hd r; simp [detachGuard, hk, hd]
  · intro h; simp [replaceGuard, h]
  · intro hk hp; simp [detachGuard, hk, hp]

/-- text and tag nodes are refused as siblings of a root (whatever the root is) -/
theorem c09_root_sibling_refused (target offered : NodeInfo) (isDef : Bool)
    (ht : target.hasParent = false) (hk : offered.kind = .text ∨ offered.kind = .tag) :
    addSiblingGuard target offered isDef ≠ none := by
  unfold addSiblingGuard
  split
  · simp
  · split
    · simp
    · have hm : isMarkup offered.kind = false := by
        rcases hk with hk | hk <;> rw [hk] <;> rfl
      simp [validateSibling, ht, hm]
      split <;> simp

/-- the index guards accept exactly the positions that exist -/
theorem c09_index_guards (target offered : NodeInfo) (i : Int) (ho : prepareNewRelative offered = none) :
    (insertGuard target offered i = none ↔ 0 ≤ i ∧ i ≤ target.nkids) ∧
    (setItemGuard target offered i = none ↔ (target.nkids = 0 ∧ i = 0) ∨ (0 ≤ i ∧ i < target.nkids)) ∧
    (delItemGuard target i = none ↔ (-(target.nkids : Int) ≤ i ∧ i < target.nkids)) := by
  refine ⟨?_, ?_, ?_⟩
  · simp only [insertGuard, ho, ite_some_eq_none, and_true]
    omega
  · simp only [setItemGuard, addChildGuard, ho]
    by_cases h1 : (target.nkids == 0 && i == 0) = true
    · rw [if_pos h1]; simp at h1; simp [h1]
    · rw [if_neg h1, ite_none_eq_none]; simp at h1 ⊢; omega
  · simp only [delItemGuard, ite_none_eq_none, Bool.and_eq_true, decide_eq_true_eq]
    split <;> omega

/-- a Legal edit of C01 (detached node offered next to a node that has a parent, or as a child)
    passes every guard -/
theorem c09_legal_passes (target offered : NodeInfo) (isDef : Bool)
    (ho : offered.hasParent = false ∧ offered.hasNext = false ∧ offered.hasPrev = false)
    (hod : offered.isDocRoot = false) (ht : target.hasParent = true) :
    addSiblingGuard target offered isDef = none ∧ addChildGuard offered = none ∧
    replaceGuard target offered isDef = none ∧ (target.isDocRoot = false → ∀ r, detachGuard target r = none) := by
  obtain ⟨h1, h2, h3⟩ := ho
  have hprep : prepareNewRelative offered = none := by simp [prepareNewRelative, h1, h2, h3, hod]
  have hs : addSiblingGuard target offered isDef = none := by
    simp [addSiblingGuard, ht, hprep, validateSibling]
  refine ⟨hs, ?_, ?_, ?_⟩
  · simp [addChildGuard, hprep]
  · simp [replaceGuard, ht, hs]
  · intro hd r; simp [detachGuard, hd, ht]

/-- the comment validator accepts exactly the well-formed comment contents (no `--`, no trailing `-`) -/
theorem c09_comment_content (s : Str) : commentContentOk s = true ↔ CommentWellFormed s := by
  unfold commentContentOk CommentWellFormed
  rw [Bool.and_eq_true, Bool.not_eq_true', ← Bool.not_eq_true, hasSub_iff, bne_iff_ne, getLast?_ne_iff]

/-- the target validator refuses exactly the empty target and `xml` in any letter case -/
theorem c09_pi_target (s : Str) :
    piTargetOk s = false ↔ s = [] ∨ s.map lowerAscii = ['x', 'm', 'l'] := by
  unfold piTargetOk
  simp only [Bool.and_eq_false_iff, Bool.not_eq_false', List.isEmpty_iff, bne_eq_false_iff_eq]

example : commentContentOk "a--z".toList = false ∧ commentContentOk "foo-".toList = false ∧
    commentContentOk "a-b".toList = true ∧ piTargetOk "xMl".toList = false ∧ piTargetOk "xml-x".toList = true := by decide +kernel

end Delb.Guards

namespace Delb.GuardOrder
open Delb.Gen

/-- event machine: on a path that keeps the discipline "checks first", a run that is rejected at
    one of the entry point's own guards has changed nothing before -/
theorem c09_rejected_before_any_change (allowed : List String) (p : List GuardEv) (i : Nat) (g : String)
    (h : shapeOk allowed p = true) (hi : p[i]? = some (.guard g)) : changedBefore p i = [] :=
  shapeOk_rejected allowed p i g h hi

/-- translator obligation: every control-flow path of every editing entry point of the current
    source (`add_following_siblings`, `add_preceding_siblings`, `replace_with`, `_prepare_new_relative`,
    both `_validate_sibling_operation`, `append_children`, `prepend_children`, `insert_children`,
    `__setitem__`, `__delitem__`, the three `detach` methods, the comment-content and PI-target
    setters, the `Document.root` setter) keeps that discipline for single-node calls; every entry
    point was found in the source and has at least one path -/
theorem c09_source_guards_first :
    guardSkeleton.length = 17 ∧
    ∀ e ∈ guardSkeleton, e.paths ≠ [] ∧ ∀ p ∈ e.paths, shapeOk (allowedLater e.name) (single p) = true := by
  decide +kernel

/-- … hence: wherever one of these entry points rejects a single-node call by an own `raise` or
    checking helper, no mutation and no call of another entry point has happened in that body -/
theorem c09_source_rejections_change_nothing (e : EntryPaths) (he : e ∈ guardSkeleton)
    (p : List GuardEv) (hp : p ∈ e.paths) (i : Nat) (g : String) (hi : (single p)[i]? = some (.guard g)) :
    changedBefore (single p) i = [] :=
  shapeOk_rejected _ _ i g ((c09_source_guards_first.2 e he).2 p hp) hi

/-- the checking helpers themselves change nothing at all -/
theorem c09_source_checkers_pure :
    ∀ e ∈ guardSkeleton, e.name ∈ ["NodeBase._prepare_new_relative", "NodeBase._validate_sibling_operation",
        "TagNode._validate_sibling_operation"] → ∀ p ∈ e.paths, p.all (fun ev => !changes ev) = true := by
  decide +kernel

/-- non-vacuity: the discipline is violated by "remove the old child, then insert the new one" -/
example : shapeOk [] [.call "__delitem__", .call "insert_children"] = false ∧
    shapeOk [] [.guard "raise IndexError"] = true ∧
    shapeOk [] [.guard "_prepare_new_relative", .guard "_validate_sibling_operation", .mutate "_add_following_sibling"] = true ∧
    shapeOk [] [.mutate "lxml.remove", .guard "raise InvalidOperation"] = false := by decide +kernel

end Delb.GuardOrder
