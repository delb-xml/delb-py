import DelbModel.Props.C01
import DelbModel.Model.EditApi
import DelbModel.Lemmas.EditApi
/-!
# C01, public API — the composite editing calls behave like list splices on a plain ordered tree

`DelbModel/Model/EditApi.lean` writes the public calls (`add_following_siblings`, `add_preceding_siblings`,
`append_children`, `insert_children`, `prepend_children`, `detach(retain_child_nodes=True)`, `replace_with`,
`__delitem__`) down once, as total functions over a machine; `apiC` runs them on the slot/chain mechanism
(`stepC`), `apiA` on plain trees (`stepA`).  The JSON driver runs the same definitions.

* `c01_api_refines`, `c01_api_history`: what the mechanism does in a composite call is a history of
  primitive steps, and abstracts to what the same call does to plain trees (from `step_sim` through `sim_runApi`;
  `c01_history` for the history);
* `c01_api_append` … `c01_api_delitem`: on plain trees each call *is* the splice one expects, for every
  tree and every number of offered nodes.

Legality hypotheses are Boolean (`tagAt`, `childAt`, `legalSources`, `isEmpty`): the target is a tag node /
has a child `k`; the offered groups exist, are not the target's own tree (so the target is not inside an
offered tree) and are pairwise distinct.  Nothing is asked of text payloads: `stepA` does not look at them
(the empty-string confusion of the library is a recorded finding about the mechanism model, not about
splices).
-/
namespace Delb.Edit

/-! ## the mechanism refines the plain-tree calls -/

/-- `c01_step` and `c01_step_error` together, as the composites need them -/
theorem c01_api_sim : Sim machC machA (fun c a => a = absState c) where
  view := by intro s₁ s₂ h; subst h; rfl
  step := by intro s₁ s₂ p h; subst h; exact step_sim s₁ p

/-- whenever a composite API call runs to `.ok` on the mechanism, the same call on the abstracted state
    runs to `.ok` of the abstraction of the result; and a call the mechanism rejects is rejected on plain
    trees too -/
theorem c01_api_refines (s : StateC) (c : ApiCall Source) :
    (∀ s', apiC s c = .ok s' → apiA (absState s) c = .ok (absState s')) ∧
    (∀ e, apiC s c = .error e → ∃ e', apiA (absState s) c = .error e') := by
  have h := sim_runApi c01_api_sim (offerSource_sim _) s (absState s) c rfl
  exact ⟨fun s' hs' => h.ok_eq hs', fun e he => h.of_error he⟩

/-- what the mechanism runs in a composite call is a history of primitive steps, so `c01_history`
    applies to it -/
theorem c01_api_history (s s' : StateC) (c : ApiCall Source) (h : apiC s c = .ok s') :
    ∃ ops, runC s ops = .ok s' ∧ runA (absState s) ops = .ok (absState s') := by
  obtain ⟨ops, hops⟩ := runApi_machC_history s s' c h
  exact ⟨ops, hops, c01_history s s' ops hops⟩

/-! ## the calls on plain trees

The running example: group 0 is `<r>a<b>in<!--cm--></b>t1</r>`, group 1 a parentless `<g>gg</g>`, group 2 a
detached text node, group 3 an empty slot. -/

def exState : StateA :=
  { groups := [some (.tag 0 "" "r" [] [.text 1 "a".toList, .tag 2 "" "b" [] [.text 5 "in".toList, .comment 6 "cm".toList],
                                       .text 3 "t1".toList]),
               some (.tag 10 "" "g" [] [.text 11 "gg".toList]),
               some (.text 12 "lone".toList),
               none],
    nextId := 20 }

/-- the same forest in the slot/chain encoding -/
def exStateC : StateC :=
  { groups := [some (.el (.tag 0 "" "r" [] [⟨1, "a".toList⟩]
                 [(.tag 2 "" "b" [] [⟨5, "in".toList⟩] [(.comment 6 "cm".toList, [])], [⟨3, "t1".toList⟩])])),
               some (.el (.tag 10 "" "g" [] [⟨11, "gg".toList⟩] [])),
               some (.text ⟨12, "lone".toList⟩),
               none],
    nextId := 20 }

example : absState exStateC = exState := by rfl

/-- non-vacuity of `c01_api_refines`: the mechanism performs an `insert_children(1, "q", <g>, "lone")` -/
example : (apiC exStateC (.insert ⟨0, []⟩ 1 [.newText "q".toList, .group 1, .group 2])).toOption.map absState =
    some { groups := [some (.tag 0 "" "r" [] [.text 1 "a".toList, .text 20 "q".toList,
                                .tag 10 "" "g" [] [.text 11 "gg".toList], .text 12 "lone".toList,
                                .tag 2 "" "b" [] [.text 5 "in".toList, .comment 6 "cm".toList], .text 3 "t1".toList]),
                      none, none, none],
           nextId := 21 } := by rfl

/-- `append_children(*srcs)`: the child list becomes `kids ++ offered`; the offered groups leave the
    forest; nothing else changes -/
theorem c01_api_append (s : StateA) (a : Addr) (srcs : List Source)
    (ht : tagAt s a = true) (hl : legalSources s a.g srcs = true) :
    apiA s (.append a srcs) = .ok (appendSpec s a srcs) := by
  obtain ⟨x, hx, hxt⟩ := (tagAt_iff s a).1 ht
  exact appendChildren_spec hx hxt hl

example : tagAt exState ⟨0, [1]⟩ = true ∧
    legalSources exState 0 [.newText "q".toList, .group 1, .newText "z".toList, .group 2] = true := by decide +kernel

example : apiA exState (.append ⟨0, [1]⟩ [.newText "q".toList, .group 1, .newText "z".toList, .group 2]) =
    .ok { groups := [some (.tag 0 "" "r" [] [.text 1 "a".toList,
                        .tag 2 "" "b" [] [.text 5 "in".toList, .comment 6 "cm".toList, .text 20 "q".toList,
                                          .tag 10 "" "g" [] [.text 11 "gg".toList], .text 21 "z".toList,
                                          .text 12 "lone".toList],
                        .text 3 "t1".toList]), none, none, none],
          nextId := 22 } := by rfl

/-- `insert_children(i, *srcs)` with `i ≤ len(kids)` and at least one node: the child list becomes
    `kids[:i] ++ offered ++ kids[i:]` -/
theorem c01_api_insert (s : StateA) (a : Addr) (i : Nat) (srcs : List Source)
    (ht : tagAt s a = true) (hi : i ≤ kidsCountA s a) (hne : srcs.isEmpty = false)
    (hl : legalSources s a.g srcs = true) :
    apiA s (.insert a i srcs) = .ok (insertSpec s a i srcs) := by
  obtain ⟨x, hx, hxt⟩ := (tagAt_iff s a).1 ht
  exact insertChildren_spec hx hxt (kidsCountA_eq hx ▸ hi) hne hl

/-- … and it is an `IndexError` exactly when the index is beyond the child list -/
theorem c01_api_insert_index_error (s : StateA) (a : Addr) (i : Nat) (srcs : List Source)
    (ht : tagAt s a = true) (hne : srcs.isEmpty = false) (hl : legalSources s a.g srcs = true) :
    apiA s (.insert a i srcs) = .error .indexError ↔ kidsCountA s a < i := by
  constructor
  · intro h
    rcases Nat.lt_or_ge (kidsCountA s a) i with hlt | hge
    · exact hlt
    · rw [c01_api_insert s a i srcs ht hge hne hl] at h; cases h
  · intro hlt
    simp only [apiA, runApi, insertChildren, machA_view, gt_iff_lt, if_pos hlt]; rfl

/-- `prepend_children(*srcs)` is `insert_children(0, *srcs)` -/
theorem c01_api_prepend (s : StateA) (a : Addr) (srcs : List Source) :
    apiA s (.prepend a srcs) = apiA s (.insert a 0 srcs) := rfl

example : apiA exState (.insert ⟨0, []⟩ 1 [.group 2, .newText "q".toList, .group 1]) =
    .ok { groups := [some (.tag 0 "" "r" [] [.text 1 "a".toList, .text 12 "lone".toList, .text 20 "q".toList,
                        .tag 10 "" "g" [] [.text 11 "gg".toList],
                        .tag 2 "" "b" [] [.text 5 "in".toList, .comment 6 "cm".toList], .text 3 "t1".toList]),
                     none, none, none],
          nextId := 21 } := by rfl

example : tagAt exState ⟨0, []⟩ = true ∧ 1 ≤ kidsCountA exState ⟨0, []⟩ ∧
    legalSources exState 0 [.group 2, .newText "q".toList, .group 1] = true := by decide +kernel

/-- a text node takes no children; `prepend_children` on a node that has children goes through
    `add_preceding_siblings` of its first child -/
example : apiA exState (.insert ⟨1, [0]⟩ 0 [.newText "q".toList]) = .error .badAddress ∧
    apiA exState (.prepend ⟨1, []⟩ [.newText "q".toList, .group 2]) =
      .ok { groups := [exState.groups[0]!, some (.tag 10 "" "g" [] [.text 20 "q".toList, .text 12 "lone".toList,
                                                                     .text 11 "gg".toList]), none, none],
            nextId := 21 } := by constructor <;> rfl

/-- `add_following_siblings(*srcs)` on child `k` of `parent`: the offered nodes are spliced in after it, in
    the order given -/
theorem c01_api_add_following (s : StateA) (parent : Addr) (k : Nat) (srcs : List Source)
    (hc : childAt s parent k = true) (hl : legalSources s parent.g srcs = true) :
    apiA s (.addFollowing (childAddr parent k) srcs) = .ok (addFollowingSpec s parent k srcs) := by
  obtain ⟨x, hx, -, hk⟩ := (childAt_iff s parent k).1 hc
  exact addFollowingAll_spec hx hk hl

example : childAt exState ⟨0, [1]⟩ 0 = true ∧
    legalSources exState 0 [.newText "q".toList, .group 1, .newText "z".toList] = true := by decide +kernel

example : apiA exState (.addFollowing (childAddr ⟨0, [1]⟩ 0) [.newText "q".toList, .group 1, .newText "z".toList]) =
    .ok { groups := [some (.tag 0 "" "r" [] [.text 1 "a".toList,
                        .tag 2 "" "b" [] [.text 5 "in".toList, .text 20 "q".toList,
                                          .tag 10 "" "g" [] [.text 11 "gg".toList], .text 21 "z".toList,
                                          .comment 6 "cm".toList],
                        .text 3 "t1".toList]), none, some (.text 12 "lone".toList), none],
          nextId := 22 } := by rfl

/-- `add_preceding_siblings(*srcs)` on child `k` of `parent`: each further node is handed to the node just
    added (`this.add_preceding_siblings(*queue)`), so the offered nodes are spliced in before child `k` in
    *reverse* order (identities of new text nodes are still given out in the order offered) -/
theorem c01_api_add_preceding (s : StateA) (parent : Addr) (k : Nat) (srcs : List Source)
    (hc : childAt s parent k = true) (hl : legalSources s parent.g srcs = true) :
    apiA s (.addPreceding (childAddr parent k) srcs) = .ok (addPrecedingSpec s parent k srcs) := by
  obtain ⟨x, hx, -, hk⟩ := (childAt_iff s parent k).1 hc
  exact addPrecedingAll_spec parent.g parent.path k srcs s x hx hk hl

example : apiA exState (.addPreceding (childAddr ⟨0, [1]⟩ 1) [.newText "q".toList, .group 1, .newText "z".toList]) =
    .ok { groups := [some (.tag 0 "" "r" [] [.text 1 "a".toList,
                        .tag 2 "" "b" [] [.text 5 "in".toList, .text 21 "z".toList,
                                          .tag 10 "" "g" [] [.text 11 "gg".toList], .text 20 "q".toList,
                                          .comment 6 "cm".toList],
                        .text 3 "t1".toList]), none, some (.text 12 "lone".toList), none],
          nextId := 22 } := by rfl

example : childAt exState ⟨0, [1]⟩ 1 = true := by decide +kernel

/-- `detach(retain_child_nodes=True)` of child `k` of `parent` (any node type; a childless node is simply
    detached): its children take its place, in order; the node becomes a parentless group without
    children -/
theorem c01_api_detach_retain (s : StateA) (parent : Addr) (k : Nat) (hc : childAt s parent k = true) :
    apiA s (.detachRetain (childAddr parent k)) = .ok (detachRetainSpec s parent k) := by
  obtain ⟨x, hx, -, hk⟩ := (childAt_iff s parent k).1 hc
  exact detachRetain_spec hx hk

example : childAt exState ⟨0, []⟩ 1 = true := by decide +kernel

example : apiA exState (.detachRetain (childAddr ⟨0, []⟩ 1)) =
    .ok { groups := [some (.tag 0 "" "r" [] [.text 1 "a".toList, .text 5 "in".toList, .comment 6 "cm".toList,
                                             .text 3 "t1".toList]),
                     some (.tag 10 "" "g" [] [.text 11 "gg".toList]), some (.text 12 "lone".toList), none,
                     none, none, some (.tag 2 "" "b" [] [])],
          nextId := 20 } := by rfl

/-- `replace_with` on child `k` of `parent` (the library call offers exactly one node; any number is
    covered): the offered nodes take the node's place, the node becomes a parentless group -/
theorem c01_api_replace (s : StateA) (parent : Addr) (k : Nat) (srcs : List Source)
    (hc : childAt s parent k = true) (hl : legalSources s parent.g srcs = true) :
    apiA s (.replace (childAddr parent k) srcs) = .ok (replaceSpec s parent k srcs) := by
  obtain ⟨x, hx, -, hk⟩ := (childAt_iff s parent k).1 hc
  exact replaceWith_spec hx hk hl

example : childAt exState ⟨0, []⟩ 1 = true ∧ legalSources exState 0 [.group 1] = true := by decide +kernel

example : apiA exState (.replace (childAddr ⟨0, []⟩ 1) [.group 1]) =
    .ok { groups := [some (.tag 0 "" "r" [] [.text 1 "a".toList, .tag 10 "" "g" [] [.text 11 "gg".toList],
                                             .text 3 "t1".toList]),
                     none, some (.text 12 "lone".toList), none,
                     some (.tag 2 "" "b" [] [.text 5 "in".toList, .comment 6 "cm".toList])],
          nextId := 20 } := by rfl

/-- `del parent[k]`: child `k` becomes a parentless group, the other children keep their order -/
theorem c01_api_delitem (s : StateA) (parent : Addr) (k : Nat) (hc : childAt s parent k = true) :
    apiA s (.delItem parent k) = .ok (delItemSpec s parent k) := by
  obtain ⟨x, hx, -, hk⟩ := (childAt_iff s parent k).1 hc
  exact delItem_spec hx hk

/-- … and an `IndexError` when there is no child `k` -/
theorem c01_api_delitem_index_error (s : StateA) (parent : Addr) (k : Nat) (h : kidsCountA s parent ≤ k) :
    apiA s (.delItem parent k) = .error .indexError := by
  simp only [apiA, runApi, delItem, machA_view, ge_iff_le, if_pos h]; rfl

example : childAt exState ⟨0, [1]⟩ 0 = true := by decide +kernel

example : apiA exState (.delItem ⟨0, [1]⟩ 0) =
    .ok { groups := [some (.tag 0 "" "r" [] [.text 1 "a".toList, .tag 2 "" "b" [] [.comment 6 "cm".toList],
                                             .text 3 "t1".toList]),
                     some (.tag 10 "" "g" [] [.text 11 "gg".toList]), some (.text 12 "lone".toList), none,
                     some (.text 5 "in".toList)],
          nextId := 20 } := by rfl

end Delb.Edit
