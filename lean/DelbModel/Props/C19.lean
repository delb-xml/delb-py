import DelbModel.Model.Wrap
import DelbModel.Lemmas.Wrap
/-!
# C19 — Wrapped text fills lines greedily up to the requested width
-/
namespace Delb.Wrap

/-- words are neither split, joined nor reordered: the lines are the joins of a
    partition of the word list into non-empty consecutive groups -/
theorem c19_groups_partition (w : Nat) (ws : List (List Char)) :
    (greedyGroups w ws).flatten = ws ∧ ∀ g ∈ greedyGroups w ws, g ≠ [] := by
  cases ws with
  | nil => simp [greedyGroups]
  | cons wd wds =>
    exact ⟨by simpa [greedyGroups] using groups_flatten w wds [wd], groups_ne_nil w wds [wd] (by simp)⟩

/-- no line is longer than the width unless it is a single (unbreakable) word -/
theorem c19_width (w : Nat) (ws : List (List Char)) :
    ∀ g ∈ greedyGroups w ws, (join g).length ≤ w ∨ g.length = 1 := by
  cases ws with
  | nil => simp [greedyGroups]
  | cons wd wds => exact groups_width w wds [wd] (by simp) (Or.inr rfl)

/-- no line is shorter than necessary: the first word of each following line would
    not have fitted on the line before -/
theorem c19_greedy (w : Nat) (ws : List (List Char)) (i : Nat) (g₁ g₂ : List (List Char))
    (h₁ : (greedyGroups w ws)[i]? = some g₁) (h₂ : (greedyGroups w ws)[i+1]? = some g₂) :
    ∃ wd rest, g₂ = wd :: rest ∧ (join g₁).length + 1 + wd.length > w := by
  cases ws with
  | nil => simp [greedyGroups] at h₁
  | cons wd wds => exact groups_greedy w wds [wd] i g₁ g₂ h₁ h₂

/-- the code's `_wrap_text` computes exactly the greedy fill, for every width ≥ 1 and
    every sequence of words joined by single spaces -/
theorem c19_wrap_eq_greedy (w : Nat) (hw : 1 ≤ w) (ws : List (List Char))
    (hws : ∀ wd ∈ ws, IsWord wd) :
    wrapText w (join ws) = greedyFill w ws :=
  wrapText_join_eq_greedyFill w ws hws

/-- breaking happens at spaces only and nothing is lost: re-joining gives the text back -/
theorem c19_join (w : Nat) (t : List Char) (h : t.getLast? ≠ some ' ') :
    join (wrapText w t) = t :=
  join_wrap w (t.length + 1) t (Nat.lt_succ_self _) h

/-- every text line carries the indentation of its nesting depth -/
theorem c19_indent (w : Nat) (indent : List Char) (depth : Nat) (t : List Char) :
    textLines w indent depth t =
      (wrapText w t).map (fun l => (List.replicate (depth + 1) indent).flatten ++ l) := rfl

/-- non-vacuity: a concrete instance with a word longer than the width -/
example : wrapText 5 "ab cd efghijk l".toList = ["ab cd".toList, "efghijk".toList, "l".toList] := by
  decide +kernel
example : greedyFill 5 ["ab".toList, "cd".toList, "efghijk".toList, "l".toList]
    = ["ab cd".toList, "efghijk".toList, "l".toList] := by decide +kernel


end Delb.Wrap
