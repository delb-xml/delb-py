import DelbModel.Model.Clone
import DelbModel.Lemmas.Clone
/-!
# C10 — Clones are equal to, and independent of, their originals

The mechanism-level clone (`cloneEl`) refines `cloneP` by `c01_clone`; a clone is a group of its
own (a parentless element, which in the encoding carries no tail slot).
-/
namespace Delb.Clone
open Delb.Edit

/-- a deep clone is the same tree: names, namespaces, attributes, all child nodes including
    comments and processing instructions, text content — only the identities differ -/
theorem c10_clone_equal (n : Nat) (t : PTree) : strip (cloneP n t).1 = strip t := by
  exact strip_cloneP t n

/-- … and all of them are fresh: the clone's nodes are numbered `n, n+1, …` in document order -/
theorem c10_clone_fresh (n : Nat) (t : PTree) :
    idsOf (cloneP n t).1 = List.range' n (idsOf t).length ∧ (cloneP n t).2 = n + (idsOf t).length := by
  exact ids_cloneP t n

/-- a shallow clone of a tag node has the same name and attributes and no children -/
theorem c10_shallow (n i : Nat) (ns name : String) (a : List Attr) (ks : List PTree) :
    strip (shallowP n (.tag i ns name a ks)) = .tag ns name a [] := by
  simp [shallowP]

/-- cloning adds one new parentless group and changes nothing else -/
theorem c10_clone_step (s s' : StateA) (a : Addr) (h : stepA s (.cloneDeep a) = .ok s') :
    ∃ t x c, s.groups[a.g]? = some (some t) ∧ getAtP t a.path = some x ∧
      s'.groups = s.groups ++ [some c] ∧ strip c = strip x ∧ ∀ i ∈ idsOf c, s.nextId ≤ i := by
  simp only [stepA] at h
  split at h
  · rename_i t ht
    split at h
    · rename_i x hx
      cases h
      refine ⟨t, x, (cloneP s.nextId x).1, ht, hx, rfl, strip_cloneP x _, fun i hi => ?_⟩
      rw [(ids_cloneP x s.nextId).1] at hi
      exact (List.mem_range'_1.mp hi).1
    · cases h
  · cases h

/-- frame: an edit leaves every group it does not touch exactly as it was -/
theorem c10_frame (s s' : StateA) (p : Prim) (h : stepA s p = .ok s') (g : Nat)
    (hg : g ∉ touched p) (hlt : g < s.groups.length) : s'.groups[g]? = s.groups[g]? := by
  exact (stepA_frame s s' p h).2 g hg hlt

/-- hence no later edit of other trees is ever visible in a clone (or in the original, when the
    clone is edited): any history that does not touch group `g` leaves it unchanged -/
theorem c10_independent (s s' : StateA) (ops : List Prim) (h : runA s ops = .ok s') (g : Nat)
    (hg : ∀ p ∈ ops, g ∉ touched p) (hlt : g < s.groups.length) : s'.groups[g]? = s.groups[g]? := by
  induction ops generalizing s with
  | nil => cases h; rfl
  | cons p ps ih =>
    simp only [runA] at h
    split at h
    · rename_i s1 hs1
      have hf := stepA_frame s s1 p hs1
      rw [ih s1 h (fun q hq => hg q (List.mem_cons_of_mem _ hq)) (Nat.lt_of_lt_of_le hlt hf.1),
        hf.2 g (hg p List.mem_cons_self) hlt]
    · cases h

/-- cloning a document reproduces the comments and processing instructions before and after its
    root, in order (`_copy_root_siblings` with its two stacks) -/
theorem c10_copy_root_siblings (prologue epilogue : List PTree) :
    copyRootSiblings prologue epilogue = (prologue, epilogue) := by
  simp [copyRootSiblings, pushAll_eq, popAddPrevious_eq, popAddNext_eq]

example : (cloneP 10 (.tag 0 "" "r" [] [.text 1 "a".toList, .comment 2 [], .tag 3 "" "e" [] [.pi 4 "t" []]])).1
    = .tag 10 "" "r" [] [.text 11 "a".toList, .comment 12 [], .tag 13 "" "e" [] [.pi 14 "t" []]] := by rfl

/-- `Document.clone` (deep clone of the root + `_copy_root_siblings` with a `copy` of every
    sibling): the clone has the same prologue, the same root and the same epilogue, in order —
    only the identities differ —, its identities are exactly the `(idsOfDoc d).length` fresh ones
    from `n` on, each used once, and hence it shares no identity with the original (whose
    identities are below the counter `n`) -/
theorem c10_document_clone (n : Nat) (d : PDoc) :
    stripList (cloneDocument n d).1.prologue = stripList d.prologue ∧
    strip (cloneDocument n d).1.root = strip d.root ∧
    stripList (cloneDocument n d).1.epilogue = stripList d.epilogue ∧
    (idsOfDoc (cloneDocument n d).1).Perm (List.range' n (idsOfDoc d).length) ∧
    (cloneDocument n d).2 = n + (idsOfDoc d).length ∧
    (idsOfDoc (cloneDocument n d).1).Nodup ∧
    ((∀ i ∈ idsOfDoc d, i < n) → ∀ i ∈ idsOfDoc (cloneDocument n d).1, i ∉ idsOfDoc d) := by
  have hr := ids_cloneP d.root n
  have hp := ids_cloneListP d.prologue (cloneP n d.root).2
  have he := ids_cloneListP d.epilogue.reverse (cloneListP (cloneP n d.root).2 d.prologue).2
  have hlen : (idsOfList d.epilogue.reverse).length = (idsOfList d.epilogue).length :=
    (idsOfList_reverse_perm d.epilogue).length_eq
  have hperm : (idsOfDoc (cloneDocument n d).1).Perm (List.range' n (idsOfDoc d).length) := by
    rw [cloneDocument_eq]
    simp only [idsOfDoc]
    refine (((List.perm_append_comm).append (idsOfList_reverse_perm _))).trans ?_
    rw [hr.1, hp.1, he.1, hp.2, hr.2, hlen, List.range'_append_1, Nat.add_assoc n, List.range'_append_1]
    simp only [List.length_append]
    rw [Nat.add_comm (idsOfList d.prologue).length]
  have hcount : (cloneDocument n d).2 = n + (idsOfDoc d).length := by
    rw [cloneDocument_eq]
    show (cloneListP (cloneListP (cloneP n d.root).2 d.prologue).2 d.epilogue.reverse).2 = _
    rw [he.2, hp.2, hr.2, hlen]
    simp only [idsOfDoc, List.length_append]
    omega
  refine ⟨?_, ?_, ?_, hperm, hcount, hperm.nodup_iff.2 (List.nodup_range' 1), ?_⟩
  · rw [cloneDocument_eq]; exact stripList_cloneListP _ _
  · rw [cloneDocument_eq]; exact strip_cloneP _ _
  · rw [cloneDocument_eq]
    simp only [stripList_reverse, stripList_cloneListP, List.reverse_reverse]
  · intro hold i hi hi'
    have := List.mem_range'_1.1 (hperm.mem_iff.1 hi)
    have := hold i hi'
    omega

/-- non-vacuity: a comment and a PI before, two comments after the root -/
example :
    cloneDocument 10 { prologue := [.comment 1 "a".toList, .pi 2 "t" []],
                       root := .tag 0 "" "r" [] [.text 3 "x".toList],
                       epilogue := [.comment 4 "y".toList, .comment 5 "z".toList] }
    = ({ prologue := [.comment 12 "a".toList, .pi 13 "t" []],
         root := .tag 10 "" "r" [] [.text 11 "x".toList],
         epilogue := [.comment 15 "y".toList, .comment 14 "z".toList] }, 16) := by rfl

end Delb.Clone
