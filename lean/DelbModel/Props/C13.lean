import DelbModel.Model.Serialize
import DelbModel.Lemmas.Declarations
import DelbModel.Lemmas.PrefixesTotal
import DelbModel.Lemmas.NormalizeDecls
/-!
# C13 — Namespace declarations in output are consistent and honour the caller

`collect nsmap root orders` models `Serializer._collect_prefixes`; `orders` is the
(arbitrary) iteration order of every tag node's namespace set.
-/
namespace Delb.Ser

/-- `Namespaces(...)`: an accepted mapping has unique, colon-free prefixes and binds the two
    global prefixes `xml` and `xmlns` to their namespaces … -/
theorem c13_normalize_ok (decls : List (Option String × String)) (nsmap : Dict)
    (hcolon : ∀ d ∈ decls, ∀ p, d.1 = some p → ':' ∉ p.toList)
    (h : normalizeDecls decls = .ok nsmap) : NsMapOk nsmap :=
  normalizeDecls_nsMapOk hcolon h

/-- … keeps the global `xml` binding and every prefix the caller declared.  `hnodup`: the
    declarations are a Python `Mapping`, so no prefix (key) occurs twice; the model takes them
    as a list, and for a list with a repeated prefix the later entry overwrites the earlier -/
theorem c13_normalize_keeps (decls : List (Option String × String)) (nsmap : Dict)
    (hnodup : (decls.map (·.1)).Nodup)
    (h : normalizeDecls decls = .ok nsmap) :
    dget nsmap "xml" = some Gen.xmlNamespace ∧
    ∀ p ns, (some p, ns) ∈ decls → dget nsmap p = some ns ∧ lookupPrefix nsmap ns = some p :=
  normalizeDecls_keeps hnodup h

/-- the assertions in `_collect_prefixes` can never fail, whatever the tree, the caller's
    mapping and the set iteration orders are -/
theorem c13_no_assertion (nsmap : Dict) (hn : NsMapOk nsmap) (root : Node)
    (orders : List (List String)) (site : String) :
    collect nsmap root orders ≠ .error (.assertion site) :=
  (collect_spec hn root orders).1 site

/-- every namespace of the tree gets exactly one prefix, different namespaces get different
    prefixes, the empty namespace only the empty prefix, a non-empty namespace the caller bound
    to a non-empty prefix keeps it, and the prefixes `xml:` / `xmlns:` are used for the XML /
    XMLNS namespace only — for every order -/
theorem c13_collect_ok (nsmap : Dict) (hn : NsMapOk nsmap) (root : Node)
    (orders : List (List String)) (ho : ordersValid root orders = true) (m : Dict)
    (h : collect nsmap root orders = .ok m) : PMapOk nsmap m root := by
  obtain ⟨hinv, hkeys⟩ := (collect_spec hn root orders).2 m h
  exact hinv.pmapOk hn (fun ns hns => hkeys ns ((mem_orders_iff ho).mpr hns))

/-- the `xml` and `xmlns` prefixes are never declared, every other collected prefix is declared
    exactly once with its namespace, and a default declaration is written only for a non-empty
    namespace -/
theorem c13_declarations (nsmap m : Dict) (t : Node) (hm : PMapOk nsmap m t) :
    (∀ kv ∈ declarations m, kv.1 ≠ "xmlns:xml".toList ∧ kv.1 ≠ "xmlns:xmlns".toList) ∧
    (∀ ns p, dget m ns = some p → p ≠ "" → chopColon p ∉ Gen.globalPrefixes →
        (("xmlns:" ++ chopColon p).toList, ns.toList) ∈ declarations m) ∧
    (∀ v, ("xmlns".toList, v) ∈ declarations m → v ≠ [] ∧ dget m (String.ofList v) = some "") :=
  declarations_spec hm

/-- all declarations sit on the outermost element: `emitNode` (used for every descendant)
    writes only the attributes of the node itself -/
theorem c13_declarations_on_root_only (m : Dict) (ns name : String) (attrs : List Attr)
    (kids : List Node) (toks : List Tok)
    (h : emitRoot m (.tag ns name attrs kids) = .ok toks) :
    ∃ qn ad sc rest rest', toks = .stag qn (declarations m ++ ad) sc :: rest ∧
      emitNode m (.tag ns name attrs kids) = .ok (.stag qn ad sc :: rest') ∧ rest = rest' ∧
      attrsData m (sortAttrs attrs) = .ok ad := by
  obtain ⟨p, ad, ks, hp, had, hks, rfl⟩ := emitRoot_tag_inv h
  cases kids with
  | nil => exact ⟨_, ad, true, [], [], rfl, by rw [emitNode, hp, had, hks]; rfl, rfl, had⟩
  | cons k ks' => exact ⟨_, ad, false, _, _, rfl, by rw [emitNode, hp, had, hks]; rfl, rfl, had⟩

/-- non-vacuity: a caller prefix that looks like a generated one, met after another namespace -/
example : collect [("xml", Gen.xmlNamespace), ("ns0", "urn:b")]
    (.tag "urn:a" "r" [⟨"urn:c", "k", []⟩] [.tag "urn:b" "e" [] []])
    [["urn:c", "urn:a"], ["urn:b"]]
    = .ok [("urn:a", ""), ("urn:c", "ns1:"), ("urn:b", "ns0:")] :=
  eq_ok_of_toOption (by decide +kernel)

/-- non-vacuity: a caller binding of a prefix to the empty namespace (`{"foo": ""}`) is accepted
    and has no effect — the empty namespace gets the empty prefix -/
example : collect [("xml", Gen.xmlNamespace), ("xmlns", Gen.xmlnsNamespace), ("foo", "")]
    (.tag "" "r" [] []) [[""]] = .ok [("", "")] :=
  eq_ok_of_toOption (by decide +kernel)

/-- non-vacuity: an accepted mapping satisfies `NsMapOk`, and `collect` succeeds with it (here the
    caller's default namespace has to yield the empty prefix to the empty namespace) -/
example : ∃ nsmap, normalizeDecls [(some "foo", ""), (none, "urn:a")] = .ok nsmap ∧ NsMapOk nsmap ∧
    collect nsmap (.tag "urn:a" "r" [⟨"", "k", []⟩] [.tag "urn:b" "e" [] []])
      [["", "urn:a"], ["urn:b"]] = .ok [("", ""), ("urn:a", "ns0:"), ("urn:b", "ns1:")] := by
  have h := eq_ok_getD (x := normalizeDecls [(some "foo", ""), (none, "urn:a")]) [] (by decide +kernel)
  exact ⟨_, h, c13_normalize_ok _ _ (by decide +kernel) h, eq_ok_of_toOption (by decide +kernel)⟩

/-! ## totality

Besides an assertion (`c13_no_assertion`) the only way `_collect_prefixes` can fail is the
`NotImplementedError` of `_new_namespace_declaration`, raised when all `2**16` candidates `ns0`, …,
`ns65535` are rejected; `Err.invalidCodePath` is not produced by `collect` at all.  A candidate is
rejected when it is — with its colon — a prefix collected so far, or a prefix of the caller's mapping.
The candidates are pairwise different, a collected prefix belongs to one namespace of the tree, and the
caller's mapping always holds the two global prefixes `xml` and `xmlns`, which are no candidates; when a
prefix is to be generated, at least one namespace of the tree has none yet.  Hence the size bound of
`c13_collect_total`: (number of distinct namespaces in the tree) + (size of the caller's mapping,
the global and the common-namespace entries `Namespaces` adds included) ≤ 65538.
-/

/-- **totality of prefix collection**: for every tree, every accepted caller mapping and every
    iteration order of the namespace sets, `_collect_prefixes` yields a prefix map — provided the
    distinct namespaces of the tree and the entries of the caller's mapping are together at most
    `65536 + 2` -/
theorem c13_collect_total (nsmap : Dict) (hn : NsMapOk nsmap) (root : Node)
    (orders : List (List String)) (ho : ordersValid root orders = true)
    (hsmall : (dedup (treeNamespaces root)).length + nsmap.length ≤ 65538) :
    ∃ m, collect nsmap root orders = .ok m :=
  collect_total hn root orders ho hsmall

instance (nsmap : Dict) (root : Node) :
    Decidable ((dedup (treeNamespaces root)).length + nsmap.length ≤ 65538) := inferInstance

/-- … and the map has the C13 guarantees -/
theorem c13_collect_total_ok (nsmap : Dict) (hn : NsMapOk nsmap) (root : Node)
    (orders : List (List String)) (ho : ordersValid root orders = true)
    (hsmall : (dedup (treeNamespaces root)).length + nsmap.length ≤ 65538) :
    ∃ m, collect nsmap root orders = .ok m ∧ PMapOk nsmap m root := by
  obtain ⟨m, hm⟩ := c13_collect_total nsmap hn root orders ho hsmall
  exact ⟨m, hm, c13_collect_ok nsmap hn root orders ho m hm⟩

/-- when exactly `_new_namespace_declaration` gives up, for a symbolic bound: every candidate of the
    range is rejected -/
theorem c13_findFree_none_iff (nsmap m : Dict) (i bound : Nat) :
    findFree nsmap m i bound = none ↔
      ∀ j, i ≤ j → j < i + bound →
        ("ns" ++ natToStr j ++ ":") ∈ dvalues m ∨ ("ns" ++ natToStr j) ∈ dkeys nsmap :=
  findFree_eq_none_iff

/-- the pigeonhole bound behind `c13_collect_total`, for a symbolic bound: with fewer collected
    prefixes and caller prefixes than candidates, a free candidate is found … -/
theorem c13_findFree_some (nsmap m : Dict) (i bound : Nat) (h : m.length + nsmap.length < bound) :
    (findFree nsmap m i bound).isSome :=
  findFree_isSome (dkeys nsmap) (fun _ hj => hj) i bound (by simpa [dkeys] using h)

/-- … and it cannot be relaxed: a caller mapping that binds `ns0` … `ns{bound-1}` (`genMap bound`, of
    size `bound`; `pre` = any further entries) blocks all `bound` candidates -/
theorem c13_findFree_exhausted (pre m : Dict) (bound : Nat) :
    findFree (pre ++ genMap bound) m 0 bound = none :=
  findFree_genMap pre m bound

/-- the converse boundary of `c13_collect_total`: the mapping with the two global prefixes and
    `ns0` … `ns65535` is accepted and has `65538` entries; a tree with two namespaces the caller did
    not bind (`2 + 65538 > 65538`) makes `_collect_prefixes` raise `NotImplementedError`.
    (Not evaluated: the search fails by `findFree_genMap`, which is `c13_findFree_exhausted`.) -/
theorem c13_collect_exhausted :
    NsMapOk (boundMap 65536) ∧ (boundMap 65536).length = 65538 ∧
    collect (boundMap 65536) (.tag "urn:r" "r" [⟨"urn:a", "k", []⟩] []) [["urn:a", "urn:r"]]
      = .error .notImplemented :=
  ⟨nsMapOk_boundMap 65536, length_boundMap 65536, collect_exhausted⟩

/-- non-vacuity of `c13_collect_total`: an accepted mapping (with a caller prefix that looks like a
    generated one), a tree with three namespaces -/
example : ∃ nsmap, normalizeDecls [(some "ns0", "urn:b")] = .ok nsmap ∧
    ∃ m, collect nsmap (.tag "urn:a" "r" [⟨"urn:c", "k", []⟩] [.tag "urn:b" "e" [] []])
      [["urn:c", "urn:a"], ["urn:b"]] = .ok m := by
  have h := eq_ok_getD (x := normalizeDecls [(some "ns0", "urn:b")]) [] (by decide +kernel)
  exact ⟨_, h, c13_collect_total _ (c13_normalize_ok _ _ (by decide +kernel) h) _ _
    (by decide +kernel) (by decide +kernel)⟩

/-- the small instance of the boundary, evaluated: with a search bound of 2 and `ns0`, `ns1` taken
    nothing is found; one more candidate would do -/
example : findFree [("ns0", "urn:b"), ("ns1", "urn:c")] [] 0 2 = none ∧
    findFree [("ns0", "urn:b"), ("ns1", "urn:c")] [] 0 3 = some "ns2:" := by decide +kernel

end Delb.Ser
