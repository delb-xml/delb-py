import DelbModel.Model.XPath.Create
import DelbModel.Model.Clone
import DelbModel.Lemmas.XPathEval
import DelbModel.Lemmas.Create
/-!
# C15 — fetch_or_create_by_xpath finds or adds, and nothing else

The property theorems, with `removeNew` and `consistentStep`, which their statements need; helper lemmas are in
`DelbModel/Lemmas/Create.lean`.
-/
namespace Delb.XPath
open Delb.Edit

/-- expressions that do not determine a single branch are rejected, the tree stays as it is
    (a rejection returns no tree at all) -/
theorem c15_rejected (root : PTree) (n : Nat) (envQ envC : NsEnv) (ctx : List Nat) (x : XExpr)
    (h : locatable x = false) : fetchOrCreate root n envQ envC ctx x = .error .valueError := by
  simp [fetchOrCreate, h]

/-- a single existing match is returned and nothing changes -/
theorem c15_found (root : PTree) (n : Nat) (envQ envC : NsEnv) (ctx : List Nat) (x : XExpr) (r : XNode)
    (hl : locatable x = true) (hq : evaluate root envQ ctx x = .ok [r]) :
    fetchOrCreate root n envQ envC ctx x = .ok (root, r, n) := by
  simp [fetchOrCreate, hl, hq]

/-- several matches: AmbiguousTreeError, nothing changes -/
theorem c15_ambiguous (root : PTree) (n : Nat) (envQ envC : NsEnv) (ctx : List Nat) (x : XExpr)
    (a b : XNode) (rest : List XNode) (hl : locatable x = true) (hq : evaluate root envQ ctx x = .ok (a :: b :: rest)) :
    fetchOrCreate root n envQ envC ctx x = .error .ambiguous := by
  simp [fetchOrCreate, hl, hq]

mutual
  /-- the tree without the nodes whose identity is `≥ n` (i.e. without what a call added) -/
  def removeNew (n : Nat) : PTree → PTree
    | .tag i ns name a ks => .tag i ns name a (removeNewList n ks)
    | t => t
  def removeNewList (n : Nat) : List PTree → List PTree
    | [] => []
    | k :: ks => if k.id ≥ n then removeNewList n ks else removeNew n k :: removeNewList n ks
end

/-- whatever the call adds, every node that existed before keeps its parent, relative position,
    content and attributes: deleting the new nodes gives the old tree back -/
theorem c15_old_nodes_untouched (root root' : PTree) (n n' : Nat) (envQ envC : NsEnv) (ctx : List Nat)
    (x : XExpr) (r : XNode) (hids : ∀ i ∈ Clone.idsOf root, i < n)
    (h : fetchOrCreate root n envQ envC ctx x = .ok (root', r, n')) :
    removeNew n root' = root ∧ n ≤ n' :=
  fetchOrCreate_untouched (f := removeNew n) (g := removeNewList n)
    ⟨fun _ _ _ _ _ => by simp [removeNew], fun _ _ => by simp [removeNew], fun _ _ => by simp [removeNew],
     fun _ _ _ => by simp [removeNew], by simp [removeNewList], fun _ _ => by simp [removeNewList]⟩
    root root' n' envQ envC ctx x r hids h

/-- the attribute equalities of each step do not contradict each other -/
def consistentStep (s : Step) : Prop :=
  ∀ a b, a ∈ stepAttrs s → b ∈ stepAttrs s → a.1 = b.1 → a.2.1 = b.2.1 → a.2.2 = b.2.2

/- Where the hypotheses of `c15_created_is_selected` / `c15_idempotent` come from, with root = <r/>
   (`.tag 0 "" "r" [] []`), n = 1, ctx = []:
--  (1) A step without candidates never looks at its prefix.  So for env = [] and p = `x:a` (`.name (some "x") "a"`, no
--      predicates) the loop of `_create_by_xpath` alone creates `<a/>` (no namespace) and returns `.at [0]`, and the
--      re-query, which then has a candidate, raises `unknownPrefix "x"`; likewise for `a[@x:k="v"]`, whose attribute
--      `k` is created without namespace.  The `_partial` theorems exclude this by the hypothesis `stepPrefixesBound`
--      (every prefix of the path is bound in `env`).  `fetch_or_create_by_xpath` checks the prefixes before it creates
--      anything: such a call is rejected (`c15_unbound_prefix_rejected`), and the hypothesis follows from the success
--      of the call (`stepPrefixesBound_of_checked`).
--  (2) env = [("x","u"), ("y","u")], p = `a[@x:k="1" and @y:k="2"]` is a counterexample when the
--      attribute equalities are only required to be consistent per (prefix, local name)
--      (`consistentStep`, which holds here: the prefixes differ): both equalities set the attribute `{u}k`,
--      the later one wins, the re-query yields `[]`, and a second call appends a second `<a/>` (returns
--      `.at [1]`).  Hence the hypothesis `consistentStepIn`: the attribute equalities are consistent after
--      prefix resolution (it implies `consistentStep`: `consistentStep_of_in`).
-/

/-- `consistentStepIn` (attribute names compared after prefix resolution) is the stronger notion -/
theorem c15_consistentStepIn_consistentStep (env : NsEnv) (s : Step) (h : consistentStepIn env s) :
    consistentStep s := consistentStep_of_in env s h

/-- after a successful call the same expression selects exactly the returned node, provided the
    prefixes of the path are bound and the attribute equalities are consistent as expanded names -/
theorem c15_created_is_selected_partial (root root' : PTree) (n n' : Nat) (env : NsEnv) (ctx : List Nat)
    (p : Path) (r : XNode) (hp : ∀ s ∈ p.steps, stepPrefixesBound env s = true)
    (hc : ∀ s ∈ p.steps, consistentStepIn env s)
    (h : fetchOrCreate root n env env ctx [p] = .ok (root', r, n')) :
    evaluate root' env ctx [p] = .ok [r] :=
  fetchOrCreate_selected_of root root' n n' env ctx p r (fun _ => hp) hc h

/-- hence a second call returns the same node and changes nothing -/
theorem c15_idempotent_partial (root root' : PTree) (n n' : Nat) (env : NsEnv) (ctx : List Nat)
    (p : Path) (r : XNode) (hp : ∀ s ∈ p.steps, stepPrefixesBound env s = true)
    (hc : ∀ s ∈ p.steps, consistentStepIn env s)
    (h : fetchOrCreate root n env env ctx [p] = .ok (root', r, n')) :
    fetchOrCreate root' n' env env ctx [p] = .ok (root', r, n') :=
  c15_found root' n' env env ctx [p] r (locatable_of_ok h)
    (c15_created_is_selected_partial root root' n n' env ctx p r hp hc h)

/-- a prefix that the mapping does not bind is reported before anything is created: when the query finds
    nothing and some step names an unbound prefix (name test or derived attribute), the call ends with an
    evaluation error - and an error returns no tree, the tree stays as it is -/
theorem c15_unbound_prefix_rejected (root : PTree) (n : Nat) (envQ envC : NsEnv) (ctx : List Nat) (p : Path)
    (hl : locatable [p] = true) (hq : evaluate root envQ ctx [p] = .ok [])
    (hu : p.steps.flatMap (unboundPrefixes envC) ≠ []) :
    ∃ q, fetchOrCreate root n envQ envC ctx [p] = .error (.eval (.unknownPrefix q)) := by
  cases hU : p.steps.flatMap (unboundPrefixes envC) with
  | nil => exact absurd hU hu
  | cons q qs => exact ⟨showS q, by simp [fetchOrCreate, hl, hq, hU]⟩

/- FALSE as stated (`c15_created_is_selected`, and with it `c15_idempotent`), but only for syntax trees the
   parser never produces; the statements:

theorem c15_created_is_selected (root root' : PTree) (n n' : Nat) (env : NsEnv) (ctx : List Nat)
    (p : Path) (r : XNode) (hc : ∀ s ∈ p.steps, consistentStepIn env s)
    (h : fetchOrCreate root n env env ctx [p] = .ok (root', r, n')) :
    evaluate root' env ctx [p] = .ok [r]

theorem c15_idempotent (root root' : PTree) (n n' : Nat) (env : NsEnv) (ctx : List Nat)
    (p : Path) (r : XNode) (hc : ∀ s ∈ p.steps, consistentStepIn env s)
    (h : fetchOrCreate root n env env ctx [p] = .ok (root', r, n')) :
    fetchOrCreate root' n' env env ctx [p] = .ok (root', r, n')

-- FALSE: a prefix that is present but empty (`some []`) passes the up-front check, which skips empty
-- prefixes (`if prefix and prefix not in namespaces`), while the query looks the empty prefix up
-- (`ensure_prefix`, `namespaces.get(prefix)`).  With root = <r/> (`.tag 0 "" "r" [] []`), n = 1, ctx = []:
--  (a) env = [], p = `.name (some []) "a"` without predicates: the call creates `<a/>` and returns `.at [0]`,
--      the re-query raises `unknownPrefix ""`;
--  (b) env = [("", "u")], p = `a[@k="v"]` with the attribute test `.attrVal (some []) "k"`: the call creates
--      `<{u}a k="v"/>` (the attribute in no namespace), the re-query looks for `{u}k`, finds nothing, and
--      a second call appends a second element (returns `.at [1]`).
-- Both are checked below (`example`s).  The parser takes every prefix from a NAME token, which is never
-- empty, so no parsed expression contains `some []`; the `_noempty_partial` theorems assume exactly that
-- (`stepNoEmptyPrefix`, decidable and independent of the mapping).
-/

/-- counterexample (a) -/
example :
    let p : Path := { absolute := false, steps := [{ axis := "child", test := .name (some []) "a".toList, preds := [] }] }
    let t' : PTree := .tag 0 "" "r" [] [.tag 1 "" "a" [] []]
    fetchOrCreate (.tag 0 "" "r" [] []) 1 [] [] [] [p] = .ok (t', .at [0], 2) ∧
      evaluate t' [] [] [p] = .error (.unknownPrefix "") := by
  exact ⟨by rfl, by rfl⟩

/-- counterexample (b) -/
example :
    let e : Expr := .binop "=" (.attrVal (some []) "k".toList) (.str "v".toList)
    let p : Path := { absolute := false, steps := [{ axis := "child", test := .name none "a".toList, preds := [e] }] }
    let a (i : Nat) : PTree := .tag i "u" "a" [{ ns := "", name := "k", value := "v".toList }] []
    let env : NsEnv := [("", "u")]
    (∀ s ∈ p.steps, consistentStepIn env s) ∧
    fetchOrCreate (.tag 0 "" "r" [] []) 1 env env [] [p] = .ok (.tag 0 "" "r" [] [a 1], .at [0], 2) ∧
      evaluate (.tag 0 "" "r" [] [a 1]) env [] [p] = .ok [] ∧
      fetchOrCreate (.tag 0 "" "r" [] [a 1]) 2 env env [] [p] = .ok (.tag 0 "" "r" [] [a 1, a 2], .at [1], 3) := by
  refine ⟨?_, by rfl, by rfl, by rfl⟩
  intro s hs a b ha hb _ _
  simp only [List.mem_singleton] at hs
  subst hs
  simp [stepAttrs, derivedAttrs] at ha hb
  rw [ha, hb]

/-- because the prefixes are checked before anything is created, a successful call needs no hypothesis on the
    bindings: after it the same expression selects exactly the returned node, provided the attribute equalities are consistent as
    expanded names (the property's "non-contradictory attribute-equality predicates") and no prefix is
    present but empty (true of every parsed expression) -/
theorem c15_created_is_selected_noempty_partial (root root' : PTree) (n n' : Nat) (env : NsEnv)
    (ctx : List Nat) (p : Path) (r : XNode) (hne : ∀ s ∈ p.steps, stepNoEmptyPrefix s = true)
    (hc : ∀ s ∈ p.steps, consistentStepIn env s)
    (h : fetchOrCreate root n env env ctx [p] = .ok (root', r, n')) :
    evaluate root' env ctx [p] = .ok [r] :=
  fetchOrCreate_selected_of root root' n n' env ctx p r
    (fun hU s hs => stepPrefixesBound_of_checked env s (locatable_single.1 (locatable_of_ok h) s hs) (hne s hs)
      (flatMap_unboundPrefixes_nil hU s hs)) hc h

/-- hence a second call returns the same node and changes nothing -/
theorem c15_idempotent_noempty_partial (root root' : PTree) (n n' : Nat) (env : NsEnv) (ctx : List Nat)
    (p : Path) (r : XNode) (hne : ∀ s ∈ p.steps, stepNoEmptyPrefix s = true)
    (hc : ∀ s ∈ p.steps, consistentStepIn env s)
    (h : fetchOrCreate root n env env ctx [p] = .ok (root', r, n')) :
    fetchOrCreate root' n' env env ctx [p] = .ok (root', r, n') :=
  c15_found root' n' env env ctx [p] r (locatable_of_ok h)
    (c15_created_is_selected_noempty_partial root root' n n' env ctx p r hne hc h)

/-- non-vacuity: `a/b[@k="v"]` below `<r><a/></r>` creates `<b k="v"/>` under the existing `a` -/
example : (fetchOrCreate (.tag 0 "" "r" [] [.tag 1 "" "a" [] []]) 2 [("", "")] [("", "")] []
    [{ absolute := false, steps := [
        { axis := "child", test := .name none "a".toList, preds := [] },
        { axis := "child", test := .name none "b".toList,
          preds := [.binop "=" (.attrVal none "k".toList) (.str "v".toList)] }] }]).toOption.map (·.2.1)
    = some (.at [0, 0]) := by rfl

/-! ## what is added: the minimal missing branch below the deepest existing match

Vocabulary (`DelbModel/Lemmas/Create/Minimal.lean`; `startOf` in `Create/Main.lean`): `AddedBelow root root' d i B` - `root'` is `root` with the
one subtree `B` put among the children of the tag node at `d`, at the index `i` where `append_children`
puts a node; `IsChainKids n k ks` - the child list `ks` is a branch without ramification of `k` tag nodes
with the identities `n`, `n+1`, …; `ChainFits envC ss ks` - that branch has one node per step of `ss`,
each with the name, namespace and attributes the step asks for (`StepNode`); `startOf ctx p` - the node
the path is evaluated from.  "The call created something" is `n' ≠ n`: identities were used up (with one
mapping for query and creation that is the case whenever the query found nothing,
`c15_not_found_creates`).  The loop evaluates with the mapping `envC`, so the matches are stated for it. -/

/-- when query and creation use the same mapping, a successful call that found nothing created something -/
theorem c15_not_found_creates (root root' : PTree) (n n' : Nat) (env : NsEnv) (ctx : List Nat) (p : Path)
    (r : XNode) (hq : evaluate root env ctx [p] = .ok [])
    (h : fetchOrCreate root n env env ctx [p] = .ok (root', r, n')) : n' ≠ n := by
  obtain ⟨hl, ⟨r0, hE, _⟩ | ⟨p', e, _, _, h⟩⟩ := fetchOrCreate_ok_cases h
  · rw [hq] at hE
    cases hE
  · cases e
    rintro rfl
    have hw := (createSteps_found h (locatable_single.1 hl)).2
    rw [startOf] at hw
    cases r with
    | doc => simp [evaluate, evalPaths, evalPath, hw] at hq
    | «at» q => simp [evaluate, evalPaths, evalPath, hw, addNew] at hq

/-- all of it under one existential, so that `c15_added_is_one_chain`, `c15_added_count_minimal` and
    `c15_added_names_and_attributes` below speak of the same place `d`, index `i`, subtree `B` and number `m` of leading
    steps that had a match -/
theorem c15_added_branch (root root' : PTree) (n n' : Nat) (envQ envC : NsEnv) (ctx : List Nat) (p : Path)
    (r : XNode) (h : fetchOrCreate root n envQ envC ctx [p] = .ok (root', r, n')) (hcr : n' ≠ n) :
    ∃ d i B m, AddedBelow root root' d i B ∧ m < p.steps.length ∧ n' = n + (p.steps.length - m) ∧
      IsChainKids n (p.steps.length - m) [B] ∧ ChainFits envC (p.steps.drop m) [B] ∧
      r = .at (d ++ i :: List.replicate (p.steps.length - m - 1) 0) ∧
      (∀ x, x ∈ Clone.idsOf root' ↔ x ∈ Clone.idsOf root ∨ (n ≤ x ∧ x < n')) ∧
      (∀ j, j ≤ m → ∃ c, evalSteps root envC (p.steps.take j) [startOf ctx p] = .ok [c]) ∧
      evalSteps root envC (p.steps.take m) [startOf ctx p] = .ok [.at d] ∧
      (∀ s, p.steps[m]? = some s → evalStep root envC s [] [.at d] = .ok []) ∧
      (∀ j, m < j → evalSteps root envC (p.steps.take j) [startOf ctx p] = .ok []) := by
  obtain ⟨hl, ⟨r0, _, e⟩ | ⟨p', e, _, _, h⟩⟩ := fetchOrCreate_ok_cases h
  · cases e
    exact absurd rfl hcr
  · cases e
    exact createSteps_branch envC p.steps root root' n n' _ r h (locatable_single.1 hl) hcr

/-- what a creating call adds is a single chain: the new tree is the old one with one subtree `B` put
    among the children of an existing tag node `d`; `B` is a branch without ramification of `n' - n` tag
    nodes with the identities `n`, …, `n' - 1` (the first is the new child of `d`, every further one the
    only child of the previous one, the last has no children - so no text, comment or processing
    instruction node is added); the returned node is the last node of the chain; and the identities of the
    new tree are the old ones and `n`, …, `n' - 1`, nothing else -/
theorem c15_added_is_one_chain (root root' : PTree) (n n' : Nat) (envQ envC : NsEnv) (ctx : List Nat) (p : Path)
    (r : XNode) (h : fetchOrCreate root n envQ envC ctx [p] = .ok (root', r, n')) (hcr : n' ≠ n) :
    ∃ d i B, AddedBelow root root' d i B ∧ n < n' ∧ IsChainKids n (n' - n) [B] ∧
      r = .at (d ++ i :: List.replicate (n' - n - 1) 0) ∧
      (∀ x, x ∈ Clone.idsOf root' ↔ x ∈ Clone.idsOf root ∨ (n ≤ x ∧ x < n')) := by
  obtain ⟨d, i, B, m, h1, h2, h3, h4, _, h6, h7, _⟩ := c15_added_branch root root' n n' envQ envC ctx p r h hcr
  have e : n' - n = p.steps.length - m := by rw [h3, Nat.add_sub_cancel_left]
  exact ⟨d, i, B, h1, h3 ▸ Nat.lt_add_of_pos_right (Nat.sub_pos_of_lt h2), e ▸ h4, e ▸ h6, h7⟩

/-- where below `d` the chain is put: at the index `append_children` inserts at, i.e. directly behind the
    last tag or text child of `d` - everything behind it is a comment or a processing instruction - and at
    the very end when `d` has no tag or text child.  In particular it is the last child whenever the last
    child of `d` is a tag or text node (or `d` has no children).  It is NOT always the last child: see the
    example below. -/
theorem c15_added_position (root root' : PTree) (d : List Nat) (i : Nat) (B : PTree)
    (h : AddedBelow root root' d i B) :
    ∃ t, getAtP root d = some t ∧ i ≤ t.kids.length ∧
      (∀ y ∈ t.kids.drop i, y.isTag = false ∧ y.isText = false) ∧
      (i = t.kids.length ∨ ∃ x, 0 < i ∧ t.kids[i - 1]? = some x ∧ (x.isTag || x.isText) = true) ∧
      ((∀ x, t.kids.getLast? = some x → (x.isTag || x.isText) = true) → i = t.kids.length) := by
  obtain ⟨id, ns, nm, a, ks, hg, rfl, _, _⟩ := h
  obtain ⟨h1, h2, h3⟩ := appendIndex_spec ks
  refine ⟨_, hg, h1, h2, h3, fun hlast => Nat.le_antisymm h1 (Nat.le_of_not_lt fun hlt => ?_)⟩
  cases hl : ks.getLast? with
  | none =>
    rw [List.getLast?_eq_none_iff.1 hl] at hlt
    exact Nat.not_lt_zero _ hlt
  | some x =>
    -- the last child lies behind the index, so it is neither a tag nor a text node
    have hx := h2 x (List.mem_of_getLast? (List.getLast?_drop.trans ((if_neg (Nat.not_le.2 hlt)).trans hl)))
    have := hlast x hl
    rw [hx.1, hx.2] at this
    cases this

/-- the chain is as short as it can be: `m` leading steps had a match - each prefix of at most `m` steps
    selects exactly one node of the old tree, the one of length `m` selects `d` - the next step selects
    nothing below `d`, no longer prefix selects anything, and the chain put below `d` has one node per
    remaining step: `n' - n = #steps - m` nodes -/
theorem c15_added_count_minimal (root root' : PTree) (n n' : Nat) (envQ envC : NsEnv) (ctx : List Nat) (p : Path)
    (r : XNode) (h : fetchOrCreate root n envQ envC ctx [p] = .ok (root', r, n')) (hcr : n' ≠ n) :
    ∃ d i B m, AddedBelow root root' d i B ∧ m < p.steps.length ∧ n' - n = p.steps.length - m ∧
      IsChainKids n (p.steps.length - m) [B] ∧
      (∀ j, j ≤ m → ∃ c, evalSteps root envC (p.steps.take j) [startOf ctx p] = .ok [c]) ∧
      evalSteps root envC (p.steps.take m) [startOf ctx p] = .ok [.at d] ∧
      (∀ s, p.steps[m]? = some s → evalStep root envC s [] [.at d] = .ok []) ∧
      (∀ j, m < j → evalSteps root envC (p.steps.take j) [startOf ctx p] = .ok []) := by
  obtain ⟨d, i, B, m, h1, h2, h3, h4, _, _, _, h8, h9, h10, h11⟩ :=
    c15_added_branch root root' n n' envQ envC ctx p r h hcr
  exact ⟨d, i, B, m, h1, h2, by rw [h3, Nat.add_sub_cancel_left], h4, h8, h9, h10, h11⟩

/-- the nodes of the chain, top-down, belong to the steps that had no match, in order: the `k`-th has the
    local name of the `k`-th missing step, the namespace its prefix stands for in `envC` (no prefix: the
    default namespace of `envC`; none declared: no namespace), and as attributes exactly those derived from
    the step's predicates with their prefixes resolved in `envC` (`StepNode`: none besides them, no
    expanded name twice, each derived expanded name present, with the derived value when the step's
    equalities are consistent); and it has no child besides the next node of the chain -/
theorem c15_added_names_and_attributes (root root' : PTree) (n n' : Nat) (envQ envC : NsEnv) (ctx : List Nat)
    (p : Path) (r : XNode) (h : fetchOrCreate root n envQ envC ctx [p] = .ok (root', r, n')) (hcr : n' ≠ n) :
    ∃ d i B m, AddedBelow root root' d i B ∧ m < p.steps.length ∧ n' - n = p.steps.length - m ∧
      ChainFits envC (p.steps.drop m) [B] := by
  obtain ⟨d, i, B, m, h1, h2, h3, _, h5, _⟩ := c15_added_branch root root' n n' envQ envC ctx p r h hcr
  exact ⟨d, i, B, m, h1, h2, by rw [h3, Nat.add_sub_cancel_left], h5⟩

/-- non-vacuity, two nodes below an existing match: `a/b[@k="v"]/c` at `<r><a><x/></a><!--c--></r>` (identities
    0-3, next one 4).  `a` exists, so `m = 1`, `d = [0]`; the chain `<b k="v"><c/></b>` (identities 4, 5) is
    put behind `<x/>`; the last node of the chain is returned; the hypotheses of the theorems above hold by
    `rfl` / `decide`. -/
example :
    let root : PTree := .tag 0 "" "r" [] [.tag 1 "" "a" [] [.tag 2 "" "x" [] []], .comment 3 "c".toList]
    let p : Path := { absolute := false, steps := [
        { axis := "child", test := .name none "a".toList, preds := [] },
        { axis := "child", test := .name none "b".toList,
          preds := [.binop "=" (.attrVal none "k".toList) (.str "v".toList)] },
        { axis := "child", test := .name none "c".toList, preds := [] }] }
    let env : NsEnv := [("", "")]
    let B : PTree := .tag 4 "" "b" [{ ns := "", name := "k", value := "v".toList }] [.tag 5 "" "c" [] []]
    let root' : PTree := .tag 0 "" "r" [] [.tag 1 "" "a" [] [.tag 2 "" "x" [] [], B], .comment 3 "c".toList]
    fetchOrCreate root 4 env env [] [p] = .ok (root', .at [0, 1, 0], 6) ∧ (6 ≠ 4) ∧
      -- `c15_added_is_one_chain`
      AddedBelow root root' [0] 1 B ∧ IsChainKids 4 (6 - 4) [B] ∧
      XNode.at [0, 1, 0] = .at ([0] ++ 1 :: List.replicate (6 - 4 - 1) 0) ∧
      -- `c15_added_count_minimal` with `m = 1`
      6 - 4 = p.steps.length - 1 ∧
      evalSteps root env (p.steps.take 0) [startOf [] p] = .ok [.at []] ∧
      evalSteps root env (p.steps.take 1) [startOf [] p] = .ok [.at [0]] ∧
      evalSteps root env (p.steps.take 2) [startOf [] p] = .ok [] ∧
      evalSteps root env (p.steps.take 3) [startOf [] p] = .ok [] ∧
      -- `c15_added_names_and_attributes`
      ChainFits env (p.steps.drop 1) [B] := by
  refine ⟨rfl, by decide, ⟨1, "", "a", [], [.tag 2 "" "x" [] []], rfl, rfl, rfl, rfl⟩,
    ⟨_, _, _, _, rfl, _, _, _, _, rfl, rfl⟩, rfl, rfl, rfl, rfl, rfl, rfl, ?_⟩
  exact branch_fits _ _ 4 (by decide)

/-- the same call fed to the three theorems: their hypotheses are met by `rfl` and `decide` -/
example :
    let root : PTree := .tag 0 "" "r" [] [.tag 1 "" "a" [] [.tag 2 "" "x" [] []], .comment 3 "c".toList]
    let p : Path := { absolute := false, steps := [
        { axis := "child", test := .name none "a".toList, preds := [] },
        { axis := "child", test := .name none "b".toList,
          preds := [.binop "=" (.attrVal none "k".toList) (.str "v".toList)] },
        { axis := "child", test := .name none "c".toList, preds := [] }] }
    let env : NsEnv := [("", "")]
    let B : PTree := .tag 4 "" "b" [{ ns := "", name := "k", value := "v".toList }] [.tag 5 "" "c" [] []]
    let root' : PTree := .tag 0 "" "r" [] [.tag 1 "" "a" [] [.tag 2 "" "x" [] [], B], .comment 3 "c".toList]
    (∃ d i B, AddedBelow root root' d i B ∧ 4 < 6 ∧ IsChainKids 4 (6 - 4) [B] ∧
      XNode.at [0, 1, 0] = .at (d ++ i :: List.replicate (6 - 4 - 1) 0) ∧
      (∀ x, x ∈ Clone.idsOf root' ↔ x ∈ Clone.idsOf root ∨ (4 ≤ x ∧ x < 6))) ∧
    (∃ d i B m, AddedBelow root root' d i B ∧ m < p.steps.length ∧ 6 - 4 = p.steps.length - m ∧
      ChainFits env (p.steps.drop m) [B]) := by
  intro root p env B root'
  have h : fetchOrCreate root 4 env env [] [p] = .ok (root', .at [0, 1, 0], 6) := by rfl
  exact ⟨c15_added_is_one_chain root root' 4 6 env env [] p (.at [0, 1, 0]) h (by decide),
    c15_added_names_and_attributes root root' 4 6 env env [] p (.at [0, 1, 0]) h (by decide)⟩

/-- "appended as the last child" is FALSE in general: `append_children` goes by the last child the default
    filter shows (`last_child`: tag and text nodes) and adds the node directly behind it.  `b/c` at
    `<r><a/><!--c--></r>` gives `<r><a/><b><c/></b><!--c--></r>`: the chain sits at index 1 of 3, in front
    of the comment.  (Behind every tag and text child, as `c15_added_position` says.) -/
example :
    let root : PTree := .tag 0 "" "r" [] [.tag 1 "" "a" [] [], .comment 2 "c".toList]
    let p : Path := { absolute := false, steps := [
        { axis := "child", test := .name none "b".toList, preds := [] },
        { axis := "child", test := .name none "c".toList, preds := [] }] }
    let B : PTree := .tag 3 "" "b" [] [.tag 4 "" "c" [] []]
    let root' : PTree := .tag 0 "" "r" [] [.tag 1 "" "a" [] [], B, .comment 2 "c".toList]
    fetchOrCreate root 3 [("", "")] [("", "")] [] [p] = .ok (root', .at [1, 0], 5) ∧
      AddedBelow root root' [] 1 B ∧ root'.kids.length = 3 := by
  exact ⟨by rfl, ⟨0, "", "r", [], _, rfl, rfl, rfl, by rfl⟩, rfl⟩

/-- namespaces: with `{"": "d", "x": "u"}`, `x:a[@x:k="v"]/b` at `<r/>` makes `<{u}a {u}k="v"><{d}b/></{u}a>` - the
    prefixed names in the namespace of the prefix, the unprefixed one in the default namespace of the
    mapping -/
example :
    let p : Path := { absolute := false, steps := [
        { axis := "child", test := .name (some "x".toList) "a".toList,
          preds := [.binop "=" (.attrVal (some "x".toList) "k".toList) (.str "v".toList)] },
        { axis := "child", test := .name none "b".toList, preds := [] }] }
    let env : NsEnv := [("", "d"), ("x", "u")]
    fetchOrCreate (.tag 0 "" "r" [] []) 1 env env [] [p] =
      .ok (.tag 0 "" "r" [] [.tag 1 "u" "a" [{ ns := "u", name := "k", value := "v".toList }] [.tag 2 "d" "b" [] []]],
        .at [0, 0], 3) := by
  rfl

end Delb.XPath
