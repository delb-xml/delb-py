import DelbModel.Model.Codec
import DelbModel.Lemmas.Codec
import DelbModel.Props.C12
/-!
# C12, byte level — the bytes `Document.write` produces decode to the text that was serialized

Model: `Model/Codec.lean`.  `Document.write(buffer, encoding=…, newline=…)` sends the character stream
of `Props/C12.lean` through `io.TextIOWrapper`, i.e. through `translateNewlines newline` and then
`encode codec`; a reader decodes with the codec the declaration names and normalises ends of lines
(XML 1.0 §2.11).  The theorems say that this gives back the character stream — for every one of the
newline options, for every codec and for every text the codec can represent — and that nothing else
can be encoded (`c12_codec_encodable_iff`: Python raises `UnicodeEncodeError` exactly then).

The one hypothesis is that the character stream holds no carriage return: a literal U+000D does not
survive any XML round trip (`c12_cr_not_preserved`), which is why serializers write it as `&#13;`.
-/
namespace Delb.Codec

/-! ## codecs -/

theorem c12_utf8_roundtrip (s : Str) : decodeUtf8 (encodeUtf8 s) = some s :=
  decodeWith_flatMap utf8Step utf8EncodeChar utf8Step_encode rfl s _ (Nat.le_refl _)

theorem c12_utf16_roundtrip (bigEndian : Bool) (s : Str) :
    decodeUtf16 bigEndian (encodeUtf16 bigEndian s) = some s :=
  decodeWith_flatMap (utf16Step bigEndian) (utf16EncodeChar bigEndian) (utf16Step_encode bigEndian) rfl s _
    (Nat.le_refl _)

theorem c12_utf16le_roundtrip (s : Str) : decodeUtf16 false (encodeUtf16 false s) = some s :=
  c12_utf16_roundtrip false s

theorem c12_utf16be_roundtrip (s : Str) : decodeUtf16 true (encodeUtf16 true s) = some s :=
  c12_utf16_roundtrip true s

/-- Python's `utf-16`: byte order mark `FF FE`, little endian; the reader drops the mark -/
theorem c12_utf16_bom_roundtrip (s : Str) : decodeUtf16Bom (encodeUtf16Bom s) = some s :=
  c12_utf16_roundtrip false s

/-- the reader of `utf-16` follows the mark: big endian input with `FE FF` is read as well -/
theorem c12_utf16_bom_big_endian (s : Str) :
    decodeUtf16Bom (0xFE :: 0xFF :: encodeUtf16 true s) = some s :=
  c12_utf16_roundtrip true s

theorem c12_utf16_bom_starts_with_mark (s : Str) :
    ∃ rest, encodeUtf16Bom s = 0xFF :: 0xFE :: rest ∧ rest = encodeUtf16 false s := ⟨_, rfl, rfl⟩

theorem c12_latin1_roundtrip (s : Str) (b : List Nat) (h : encodeLatin1 s = some b) :
    decodeLatin1 b = some s :=
  decodeNarrow_encodeNarrow 0x100 s b h

theorem c12_ascii_roundtrip (s : Str) (b : List Nat) (h : encodeAscii s = some b) :
    decodeAscii b = some s :=
  decodeNarrow_encodeNarrow 0x80 s b h

theorem c12_codec_roundtrip (c : Codec) (s : Str) (b : List Nat) (h : encode c s = some b) :
    decode c b = some s :=
  match c, h with
  | .utf8, rfl => c12_utf8_roundtrip s
  | .utf16, rfl => c12_utf16_bom_roundtrip s
  | .utf16le, rfl => c12_utf16le_roundtrip s
  | .utf16be, rfl => c12_utf16be_roundtrip s
  | .latin1, h => c12_latin1_roundtrip s b h
  | .ascii, h => c12_ascii_roundtrip s b h

/-- what is written consists of octets -/
theorem c12_codec_bytes_valid (c : Codec) (s : Str) (b : List Nat) (h : encode c s = some b) :
    ValidBytes b :=
  match c, h with
  | .utf8, rfl => validBytes_flatMap _ utf8EncodeChar_valid s
  | .utf16, rfl => List.forall_mem_cons.mpr ⟨by decide, List.forall_mem_cons.mpr ⟨by decide,
      validBytes_flatMap _ (utf16EncodeChar_valid false) s⟩⟩
  | .utf16le, rfl => validBytes_flatMap _ (utf16EncodeChar_valid false) s
  | .utf16be, rfl => validBytes_flatMap _ (utf16EncodeChar_valid true) s
  | .latin1, h => encodeNarrow_valid 0x100 (by decide) s b h
  | .ascii, h => encodeNarrow_valid 0x80 (by decide) s b h

/-- "every encoding able to represent the content": encoding fails (Python: `UnicodeEncodeError`
    under `errors='strict'`) exactly when some character has no byte form in the codec; the UTF
    codecs represent everything -/
theorem c12_codec_encodable_iff (c : Codec) (s : Str) :
    encode c s = none ↔ ∃ ch ∈ s, ¬ representable c ch := by
  cases c <;> simp only [encode, representable, not_true_eq_false, and_false, exists_false, reduceCtorEq]
  · simp only [encodeLatin1, encodeNarrow_eq_none_iff]
    constructor <;> (rintro ⟨ch, hm, hc⟩; exact ⟨ch, hm, by omega⟩)
  · simp only [encodeAscii, encodeNarrow_eq_none_iff]
    constructor <;> (rintro ⟨ch, hm, hc⟩; exact ⟨ch, hm, by omega⟩)

theorem c12_codec_encodable (c : Codec) (s : Str) (h : ∀ ch ∈ s, representable c ch) :
    ∃ b, encode c s = some b := by
  cases he : encode c s with
  | some b => exact ⟨b, rfl⟩
  | none =>
    obtain ⟨ch, hm, hc⟩ := (c12_codec_encodable_iff c s).mp he
    exact absurd (h ch hm) hc

theorem c12_utf_codecs_total (c : Codec) (hc : c ≠ .latin1 ∧ c ≠ .ascii) (s : Str) :
    ∃ b, encode c s = some b := by
  apply c12_codec_encodable
  intro ch _
  cases c <;> simp only [representable]
  · exact absurd rfl hc.1
  · exact absurd rfl hc.2

/-! ## strictness of the readers -/

/-- the UTF-8 reader accepts nothing but what the writer produces: no overlong forms, no surrogates,
    nothing above U+10FFFF, nothing truncated (each of these would be a second byte form of a text
    or a byte form of no text) -/
theorem c12_utf8_decode_strict (b : List Nat) (s : Str) (h : decodeUtf8 b = some s) : encodeUtf8 s = b :=
  (decodeWith_sound utf8Step utf8EncodeChar utf8Step_sound _ b s h).symm

theorem c12_utf16_decode_strict (bigEndian : Bool) (b : List Nat) (s : Str)
    (h : decodeUtf16 bigEndian b = some s) : encodeUtf16 bigEndian s = b :=
  (decodeWith_sound (utf16Step bigEndian) (utf16EncodeChar bigEndian) (utf16Step_sound bigEndian) _ b s h).symm

/-- for every codec without a byte order mark decoding is the exact inverse of encoding -/
theorem c12_codec_decode_strict (c : Codec) (hc : c ≠ .utf16) (b : List Nat) (s : Str)
    (h : decode c b = some s) : encode c s = some b :=
  match c with
  | .utf8 => congrArg some (c12_utf8_decode_strict b s h)
  | .utf16 => absurd rfl hc
  | .utf16le => congrArg some (c12_utf16_decode_strict false b s h)
  | .utf16be => congrArg some (c12_utf16_decode_strict true b s h)
  | .latin1 => encodeNarrow_decodeNarrow 0x100 (by decide) b s h
  | .ascii => encodeNarrow_decodeNarrow 0x80 (by decide) b s h

theorem c12_codec_decode_iff (c : Codec) (hc : c ≠ .utf16) (b : List Nat) (s : Str) :
    decode c b = some s ↔ encode c s = some b :=
  ⟨c12_codec_decode_strict c hc b s, c12_codec_roundtrip c s b⟩

/-- `utf-16` reads three byte forms of a text: with either mark, or little endian without one -/
theorem c12_utf16_bom_decode_forms (b : List Nat) (s : Str) (h : decodeUtf16Bom b = some s) :
    b = 0xFF :: 0xFE :: encodeUtf16 false s ∨ b = 0xFE :: 0xFF :: encodeUtf16 true s
      ∨ b = encodeUtf16 false s := by
  unfold decodeUtf16Bom at h
  split at h
  · rename_i b0 b1 rest
    split at h
    · rename_i hb
      rw [hb.1, hb.2, c12_utf16_decode_strict false rest s h]; exact Or.inl rfl
    · split at h
      · rename_i hb
        rw [hb.1, hb.2, c12_utf16_decode_strict true rest s h]; exact Or.inr (Or.inl rfl)
      · exact Or.inr (Or.inr (c12_utf16_decode_strict false _ s h).symm)
  · exact Or.inr (Or.inr (c12_utf16_decode_strict false _ s h).symm)

/-- the model's UTF-8 writer is the UTF-8 of Lean's own `String` (which the driver's JSON input and
    output go through): an independent definition, same bytes -/
theorem c12_utf8_is_lean_utf8 (s : String) :
    encodeUtf8 s.toList = s.toUTF8.data.toList.map UInt8.toNat := by
  rw [String.toUTF8_eq_toByteArray, ← String.utf8Encode_toList, List.utf8Encode, List.toList_data_toByteArray,
    List.map_flatMap, encodeUtf8, funext utf8EncodeChar_eq_core]

/-! ## newlines -/

/-- the five values `io.TextIOWrapper` accepts for `newline` -/
def newlineOptions : List (Option Str) := [none, some [], some ['\n'], some ['\r'], some ['\r', '\n']]

/-- the three values of `os.linesep` -/
def lineseps : List Str := [['\n'], ['\r', '\n'], ['\r']]

theorem c12_newline_roundtrip_with (linesep : Str) (hl : linesep ∈ lineseps) (nl : Option Str) (s : Str)
    (h : '\r' ∉ s) (hnl : nl ∈ newlineOptions) :
    xmlEol (translateNewlinesWith linesep nl s) = s := by
  have key : ∀ w, w ∈ lineseps → xmlEol (replaceLf w s) = s := by
    intro w hw
    simp only [lineseps, List.mem_cons, List.not_mem_nil, or_false] at hw
    rcases hw with rfl | rfl | rfl
    · exact xmlEolAux_replaceLf _ (· = false) rfl (fun | _, rfl, _ => ⟨false, rfl, rfl⟩) s h false rfl
    · exact xmlEolAux_replaceLf _ (fun _ => True) trivial (fun b _ t => ⟨false, trivial, rfl⟩) s h false trivial
    · exact xmlEolAux_replaceLf _ (fun _ => True) trivial (fun b _ t => ⟨true, trivial, rfl⟩) s h false trivial
  simp only [newlineOptions, List.mem_cons, List.not_mem_nil, or_false] at hnl
  rcases hnl with rfl | rfl | rfl | rfl | rfl
  · exact key linesep hl
  · have := key ['\n'] (by decide)
    rwa [replaceLf_lf] at this
  · exact key _ (by decide)
  · exact key _ (by decide)
  · exact key _ (by decide)

/-- on Linux -/
theorem c12_newline_roundtrip (nl : Option Str) (s : Str) (h : '\r' ∉ s)
    (hnl : nl ∈ [none, some [], some ['\n'], some ['\r'], some ['\r', '\n']]) :
    xmlEol (translateNewlines nl s) = s :=
  c12_newline_roundtrip_with ['\n'] (by decide) nl s h hnl

/-- without the hypothesis: a carriage return in the character stream comes back as a line feed,
    under every newline option — the reason why a serializer must write U+000D in content as a
    character reference -/
theorem c12_cr_not_preserved (nl : Option Str) (hnl : nl ∈ newlineOptions) :
    xmlEol (translateNewlines nl ['a', '\r', 'b']) = ['a', '\n', 'b'] := by
  simp only [newlineOptions, List.mem_cons, List.not_mem_nil, or_false] at hnl
  rcases hnl with rfl | rfl | rfl | rfl | rfl <;> decide +kernel

-- a CR LF pair in the character stream comes back as one line feed when line feeds are not
-- translated, and as two when they are translated to "\r" or "\r\n"
example : xmlEol (translateNewlines none ['a', '\r', '\n', 'b']) = ['a', '\n', 'b'] := by decide +kernel
example : xmlEol (translateNewlines (some ['\r']) ['a', '\r', '\n', 'b']) = ['a', '\n', '\n', 'b'] := by decide +kernel
example : xmlEol (translateNewlines (some ['\r', '\n']) ['a', '\r', '\n', 'b']) = ['a', '\n', '\n', 'b'] := by
  decide +kernel
example : xmlEol (translateNewlines none ['a', '\r', 'b']) ≠ ['a', '\r', 'b'] := by decide +kernel
-- here and below: `rw [String.toList_ofList]` turns `"…".toList` into the list of the literal's characters,
-- which the kernel would otherwise compute through the UTF-8 bytes of the literal
example : xmlEol (translateNewlines (some ['\r', '\n']) "x\ny\n".toList) = "x\ny\n".toList := by
  rw [String.toList_ofList]
  decide +kernel
example : translateNewlines (some ['\r', '\n']) "x\ny\n".toList = "x\r\ny\r\n".toList := by
  rw [String.toList_ofList, String.toList_ofList]
  decide +kernel
example : translateNewlines (some ['\r']) "x\ny\n".toList = "x\ry\r".toList := by
  rw [String.toList_ofList, String.toList_ofList]
  decide +kernel
example : translateNewlines none "x\ny\n".toList = "x\ny\n".toList := by
  rw [String.toList_ofList]
  decide +kernel
example : translateNewlinesWith "\r\n".toList none "x\ny\n".toList = "x\r\ny\r\n".toList := by
  rw [String.toList_ofList, String.toList_ofList, String.toList_ofList]
  decide +kernel
example : translateNewlines (some []) "x\ny\n".toList = "x\ny\n".toList := by
  rw [String.toList_ofList]
  decide +kernel

/-! ## both together -/

theorem c12_bytes_roundtrip_with (linesep : Str) (hl : linesep ∈ lineseps) (c : Codec) (nl : Option Str)
    (s : Str) (b : List Nat) (hnl : nl ∈ newlineOptions) (h : '\r' ∉ s)
    (hb : encode c (translateNewlinesWith linesep nl s) = some b) :
    (decode c b).map xmlEol = some s := by
  rw [c12_codec_roundtrip c _ b hb, Option.map_some, c12_newline_roundtrip_with linesep hl nl s h hnl]

/-- the bytes written for the text `s` read back as `s`: for every codec that can represent the
    translated text and every newline option -/
theorem c12_bytes_roundtrip (c : Codec) (nl : Option Str) (s : Str) (b : List Nat)
    (hnl : nl ∈ [none, some [], some ['\n'], some ['\r'], some ['\r', '\n']])
    (h : '\r' ∉ s) (hb : encode c (translateNewlines nl s) = some b) :
    (decode c b).map xmlEol = some s :=
  c12_bytes_roundtrip_with ['\n'] (by decide) c nl s b hnl h hb

/-- in the vocabulary of the model: `readBytes` undoes `writeBytes` -/
theorem c12_write_read (c : Codec) (nl : Option Str) (s : Str) (b : List Nat)
    (hnl : nl ∈ newlineOptions) (h : '\r' ∉ s) (hb : writeBytes c nl s = some b) :
    readBytes c b = some s :=
  c12_bytes_roundtrip c nl s b hnl h hb

/-- the newline translation never makes a text unencodable: the characters it adds are ASCII -/
theorem c12_translation_keeps_encodable (c : Codec) (nl : Option Str) (s : Str)
    (hnl : nl ∈ newlineOptions) (h : ∀ ch ∈ s, representable c ch) :
    ∃ b, writeBytes c nl s = some b := by
  apply c12_codec_encodable
  have hrep : ∀ w : Str, (∀ ch ∈ w, ch.toNat < 0x80) → ∀ ch ∈ replaceLf w s, representable c ch := by
    intro w hw ch hch
    obtain ⟨d, hd, hch⟩ := List.mem_flatMap.mp hch
    split at hch
    · have := hw ch hch
      cases c <;> simp only [representable] <;> omega
    · rw [List.mem_singleton.mp hch]
      exact h d hd
  simp only [newlineOptions, List.mem_cons, List.not_mem_nil, or_false] at hnl
  rcases hnl with rfl | rfl | rfl | rfl | rfl
  · exact hrep _ (by decide)
  · exact h
  · exact hrep _ (by decide)
  · exact hrep _ (by decide)
  · exact hrep _ (by decide)

/-! ## the declaration can be read before the encoding is known -/

/-- for the ASCII compatible codecs an ASCII-only prefix (the XML declaration is one) is written as
    its code points, byte for byte, whatever follows -/
theorem c12_ascii_prefix_transparent (c : Codec) (hc : c = .utf8 ∨ c = .latin1 ∨ c = .ascii)
    (p s : Str) (hp : ∀ ch ∈ p, ch.toNat < 0x80) (b : List Nat) (h : encode c (p ++ s) = some b) :
    ∃ b', encode c s = some b' ∧ b = p.map Char.toNat ++ b' := by
  have narrow : ∀ limit, encodeNarrow limit (p ++ s) = some b →
      ∃ b', encodeNarrow limit s = some b' ∧ b = p.map Char.toNat ++ b' := by
    intro limit h
    obtain ⟨hs, rfl⟩ := (encodeNarrow_eq_some_iff limit).mp h
    exact ⟨_, (encodeNarrow_eq_some_iff limit).mpr ⟨fun ch hch => hs ch (List.mem_append_right p hch), rfl⟩,
      List.map_append⟩
  rcases hc with rfl | rfl | rfl
  · cases h
    exact ⟨_, rfl, by rw [encodeUtf8, List.flatMap_append, flatMap_utf8EncodeChar_ascii p hp]; rfl⟩
  · exact narrow 0x100 h
  · exact narrow 0x80 h

/-- … and not for UTF-16, where a reader needs the byte order mark (or the `<\0` pattern) first -/
example : encode .utf16le "<?".toList = some [0x3C, 0, 0x3F, 0] := by
  rw [String.toList_ofList]
  decide +kernel
example : encode .utf16 "<?".toList = some [0xFF, 0xFE, 0x3C, 0, 0x3F, 0] := by
  rw [String.toList_ofList]
  decide +kernel

/-! ## concrete strings: 1, 2, 3 and 4 byte forms, a surrogate pair -/

-- "aé€😀" = U+0061 U+00E9 U+20AC U+1F600
example : encodeUtf8 "aé€😀".toList
    = [0x61, 0xC3, 0xA9, 0xE2, 0x82, 0xAC, 0xF0, 0x9F, 0x98, 0x80] := by
  rw [String.toList_ofList]
  decide +kernel
example : decodeUtf8 [0x61, 0xC3, 0xA9, 0xE2, 0x82, 0xAC, 0xF0, 0x9F, 0x98, 0x80]
    = some "aé€😀".toList := by
  rw [String.toList_ofList]
  decide +kernel
example : encodeUtf16 false "aé€😀".toList
    = [0x61, 0, 0xE9, 0, 0xAC, 0x20, 0x3D, 0xD8, 0x00, 0xDE] := by
  rw [String.toList_ofList]
  decide +kernel
example : encodeUtf16 true "aé€😀".toList
    = [0, 0x61, 0, 0xE9, 0x20, 0xAC, 0xD8, 0x3D, 0xDE, 0x00] := by
  rw [String.toList_ofList]
  decide +kernel
example : encodeUtf16Bom "a😀".toList = [0xFF, 0xFE, 0x61, 0, 0x3D, 0xD8, 0x00, 0xDE] := by
  rw [String.toList_ofList]
  decide +kernel
example : decodeUtf16Bom [0xFF, 0xFE, 0x61, 0, 0x3D, 0xD8, 0x00, 0xDE] = some "a😀".toList := by
  rw [String.toList_ofList]
  decide +kernel
example : decodeUtf16Bom [0xFE, 0xFF, 0, 0x61, 0xD8, 0x3D, 0xDE, 0x00] = some "a😀".toList := by
  rw [String.toList_ofList]
  decide +kernel
example : decodeUtf16 false [0x61, 0, 0x3D, 0xD8, 0x00, 0xDE] = some "a😀".toList := by
  rw [String.toList_ofList]
  decide +kernel
example : encodeLatin1 "aé".toList = some [0x61, 0xE9] := by
  rw [String.toList_ofList]
  decide +kernel
example : encodeLatin1 "aé€".toList = none := by
  rw [String.toList_ofList]
  decide +kernel
example : encodeAscii "aé".toList = none := by
  rw [String.toList_ofList]
  decide +kernel
example : decodeAscii [0x61, 0xE9] = none := by decide +kernel
example : decodeLatin1 [0x61, 0xE9] = some "aé".toList := by
  rw [String.toList_ofList]
  decide +kernel
-- the highest and lowest members of each UTF-8 length class, and the neighbours of the surrogates
example : decodeUtf8 (encodeUtf8 [Char.ofNat 0, Char.ofNat 0x7F, Char.ofNat 0x80, Char.ofNat 0x7FF,
    Char.ofNat 0x800, Char.ofNat 0xD7FF, Char.ofNat 0xE000, Char.ofNat 0xFFFF, Char.ofNat 0x10000,
    Char.ofNat 0x10FFFF]) = some [Char.ofNat 0, Char.ofNat 0x7F, Char.ofNat 0x80, Char.ofNat 0x7FF,
    Char.ofNat 0x800, Char.ofNat 0xD7FF, Char.ofNat 0xE000, Char.ofNat 0xFFFF, Char.ofNat 0x10000,
    Char.ofNat 0x10FFFF] := by decide +kernel
-- strictness: overlong forms, surrogates, values above U+10FFFF, truncated and stray bytes
example : decodeUtf8 [0xC0, 0x80] = none := by decide +kernel            -- overlong U+0000
example : decodeUtf8 [0xC1, 0xBF] = none := by decide +kernel            -- overlong U+007F
example : decodeUtf8 [0xE0, 0x9F, 0xBF] = none := by decide +kernel      -- overlong U+07FF
example : decodeUtf8 [0xF0, 0x8F, 0xBF, 0xBF] = none := by decide +kernel -- overlong U+FFFF
example : decodeUtf8 [0xED, 0xA0, 0x80] = none := by decide +kernel      -- U+D800
example : decodeUtf8 [0xED, 0xBF, 0xBF] = none := by decide +kernel      -- U+DFFF
example : decodeUtf8 [0xF4, 0x90, 0x80, 0x80] = none := by decide +kernel -- U+110000
example : decodeUtf8 [0xF5, 0x80, 0x80, 0x80] = none := by decide +kernel
example : decodeUtf8 [0xE2, 0x82] = none := by decide +kernel            -- truncated
example : decodeUtf8 [0x80] = none := by decide +kernel                  -- stray continuation byte
example : decodeUtf8 [0xC3, 0x41] = none := by decide +kernel            -- lead byte without continuation
example : decodeUtf8 [0x61, 256] = none := by decide +kernel             -- not an octet
example : decodeUtf16 false [0x00, 0xDC, 0x61, 0x00] = none := by decide +kernel -- lone low surrogate
example : decodeUtf16 false [0x3D, 0xD8, 0x61, 0x00] = none := by decide +kernel -- high surrogate, no low
example : decodeUtf16 false [0x3D, 0xD8] = none := by decide +kernel     -- truncated pair
example : decodeUtf16 false [0x61] = none := by decide +kernel           -- odd length
-- the whole way, as `Document.write(buffer, encoding="utf-16", newline="\r\n")` goes
example : writeBytes .utf16 (some ['\r', '\n']) "é\n".toList = some [0xFF, 0xFE, 0xE9, 0, 0x0D, 0, 0x0A, 0] := by
  rw [String.toList_ofList]
  decide +kernel
example : readBytes .utf16 [0xFF, 0xFE, 0xE9, 0, 0x0D, 0, 0x0A, 0] = some "é\n".toList := by
  rw [String.toList_ofList]
  decide +kernel

/-! ## the character level (`Props/C12.lean`) and the byte level together -/

section Document
open Delb.Doc

/-- the bytes `Document.write` produces for a whole document decode to the serialized text, and that
    text reads back as the same label, prologue, root string and epilogue -/
theorem c12_document_bytes_roundtrip (formatted : Bool) (encoding : String) (d : Document) (rootStr : Str)
    (hw : WellFormed d) (c : Codec) (nl : Option Str) (hnl : nl ∈ newlineOptions) (b : List Nat)
    (hcr : '\r' ∉ renderDoc (docPieces formatted encoding d rootStr))
    (hb : writeBytes c nl (renderDoc (docPieces formatted encoding d rootStr)) = some b) :
    readBytes c b = some (renderDoc (docPieces formatted encoding d rootStr)) ∧
    readDoc (docPieces formatted encoding d rootStr)
      = some (upper encoding, d.prologue, rootStr, d.epilogue) :=
  ⟨c12_write_read c nl _ b hnl hcr hb, c12_read_back formatted encoding d rootStr hw⟩

/-- upper-casing keeps a character ASCII and makes no line feed -/
theorem upperAscii_ascii (ch : Char) (h : ch.toNat < 0x80) (hn : ch ≠ '\n') :
    (upperAscii ch).toNat < 0x80 ∧ upperAscii ch ≠ '\n' := by
  unfold upperAscii
  split
  · rename_i hr
    have h1 : 97 ≤ ch.toNat := hr.1
    have e := toNat_ofNat_valid (ch.toNat - 32) (by omega)
    refine ⟨by omega, fun e' => ?_⟩
    have : ch.toNat - 32 = 10 := by rw [← e, e']; rfl
    omega
  · exact ⟨h, hn⟩

/-- the declaration as `__serialize` writes it for the label `encoding` -/
def declaration (encoding : String) : Str :=
  ("<?xml version=\"1.0\" encoding=\"" ++ upper encoding ++ "\"?>").toList

/-- for the ASCII compatible codecs and an ASCII label the file starts with the code points of the
    XML declaration, byte for byte, under every newline option: a reader can find the label before
    it knows the encoding -/
theorem c12_document_bytes_start_with_declaration (formatted : Bool) (encoding : String) (d : Document)
    (rootStr : Str) (c : Codec) (hc : c = .utf8 ∨ c = .latin1 ∨ c = .ascii) (nl : Option Str)
    (hascii : ∀ ch ∈ encoding.toList, ch.toNat < 0x80) (hlf : '\n' ∉ encoding.toList) (b : List Nat)
    (hb : writeBytes c nl (renderDoc (docPieces formatted encoding d rootStr)) = some b) :
    ∃ rest, b = (declaration encoding).map Char.toNat ++ rest := by
  obtain ⟨_, rest, hr⟩ := c12_declaration_first formatted encoding d rootStr
  have hp : ∀ ch ∈ declaration encoding, ch.toNat < 0x80 ∧ ch ≠ '\n' := by
    simp only [declaration, upper, String.toList_append, String.toList_ofList, List.forall_mem_append,
      List.forall_mem_map]
    rw [String.toList_ofList, String.toList_ofList]
    exact ⟨⟨by decide +kernel, fun x hx => upperAscii_ascii x (hascii x hx) fun e => hlf (e ▸ hx)⟩, by decide +kernel⟩
  rw [hr] at hb
  change writeBytes c nl (declaration encoding ++ rest) = some b at hb
  rw [writeBytes, translateNewlines_prefix nl _ _ fun hm => (hp _ hm).2 rfl] at hb
  obtain ⟨b', _, hb'⟩ := c12_ascii_prefix_transparent c hc _ _ (fun ch hch => (hp ch hch).1) b hb
  exact ⟨b', hb'⟩

/-- a small document: one comment in the prologue, root `<r/>` -/
def exampleDoc : Document := { prologue := [.comment ['c']], root := .tag "" "r" [] [], epilogue := [] }

def exampleText : Str := renderDoc (docPieces true "utf-8" exampleDoc "<r/>".toList)

-- written with the formatting serializer as utf-8 with `newline="\r\n"`: the separators arrive as
-- CR LF and are read back as line feeds; the pieces read back as the document

theorem exampleText_eq :
    exampleText = "<?xml version=\"1.0\" encoding=\"UTF-8\"?>\n<!--c-->\n<r/>".toList := by
  simp only [exampleText, docPieces, renderDoc, List.cons_append, List.flatMap_cons, renderDPiece, upper,
    String.toList_append]
  repeat rw [String.toList_ofList]
  decide +kernel

example : exampleText = "<?xml version=\"1.0\" encoding=\"UTF-8\"?>\n<!--c-->\n<r/>".toList := exampleText_eq
example : writeBytes .utf8 (some ['\r', '\n']) exampleText
    = some ("<?xml version=\"1.0\" encoding=\"UTF-8\"?>\r\n<!--c-->\r\n<r/>".toList.map Char.toNat) := by
  rw [exampleText_eq, String.toList_ofList, String.toList_ofList]
  decide +kernel
example : (writeBytes .utf8 (some ['\r', '\n']) exampleText).bind (readBytes .utf8) = some exampleText := by
  rw [exampleText_eq, String.toList_ofList]
  decide +kernel
example : readDoc (docPieces true "utf-8" exampleDoc "<r/>".toList)
    = some ("UTF-8", exampleDoc.prologue, "<r/>".toList, exampleDoc.epilogue) := by
  rfl

end Document

end Delb.Codec
