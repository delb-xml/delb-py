import DelbModel.Model.Whitespace
import DelbModel.Lemmas.Whitespace
/-!
# C07 — Whitespace reduction is the TEI normalisation, exactly and idempotently

All theorems are for an arbitrary whitespace predicate `ws` with `ws ' ' = true`;
`c07_whitespace_tables` ties the predicate the code uses to the generated tables.
-/
namespace Delb.WS

/-- generated-table obligation: the regex `\s` used by `_crunch_whitespace`, `str.strip`
    and `str.isspace` treat the same code points as whitespace, and XML's whitespace
    characters (space, tab, LF, CR) are among them -/
theorem c07_whitespace_tables :
    Gen.reWhitespace = Gen.stripWhitespace ∧ Gen.reWhitespace = Gen.pyWhitespace ∧
    pyWs ' ' = true ∧ pyWs '\t' = true ∧ pyWs '\n' = true ∧ pyWs '\r' = true := by
  decide

/-- the four-rule table of `_reduce_whitespace_content` is the declarative normalisation -/
theorem c07_content_impl_eq_spec (ws : Char → Bool) (hsp : ws ' ' = true)
    (s : Str) (isFirst isLast : Bool) :
    reduceContentImpl ws s isFirst isLast = reduceContentSpec ws s isFirst isLast :=
  content_impl_eq_spec ws hsp s isFirst isLast

/-- … and therefore the whole traversal: implementation model = specification, every tree -/
theorem c07_impl_eq_spec (ws : Char → Bool) (hsp : ws ' ' = true) (t : Node) :
    reduceImpl ws t = reduceSpec ws t := by
  have h : reduceContentImpl ws = reduceContentSpec ws := by
    funext s f l
    exact content_impl_eq_spec ws hsp s f l
  simp only [reduceImpl, reduceSpec, h]

/-- the reduced content has no whitespace character other than the plain space and
    never two spaces in a row -/
theorem c07_content_collapsed (ws : Char → Bool) (hsp : ws ' ' = true)
    (s : Str) (isFirst isLast : Bool) :
    (∀ c ∈ reduceContentSpec ws s isFirst isLast, ws c = true → c = ' ') ∧
    ∀ i, (reduceContentSpec ws s isFirst isLast)[i]? = some ' ' →
         (reduceContentSpec ws s isFirst isLast)[i+1]? ≠ some ' ' :=
  ⟨spec_onlySp ws s isFirst isLast, noDbl_getElem (spec_noDbl ws hsp s isFirst isLast)⟩

/-- no non-whitespace character is changed, lost or added (per text node) -/
theorem c07_content_nonws (ws : Char → Bool) (hsp : ws ' ' = true)
    (s : Str) (isFirst isLast : Bool) :
    nonWs ws (reduceContentSpec ws s isFirst isLast) = nonWs ws s :=
  nonWs_spec ws hsp s isFirst isLast

/-- elements, attributes, comments, PIs and their order are never changed -/
theorem c07_skeleton (rc : Str → Bool → Bool → Str) (m : Mode) (t : Node) :
    skeleton (reduceNode rc m t) = skeleton t :=
  (skeleton_reduce_all rc).1 t m

/-- non-whitespace characters of the whole document are preserved in order -/
theorem c07_nonws_preserved (ws : Char → Bool) (hsp : ws ' ' = true) (t : Node) :
    nonWs ws (fullText (reduceSpec ws t)) = nonWs ws (fullText t) :=
  (nonWs_reduce_all _ ws (nonWs_spec ws hsp)).1 t .default

/-- a parser-shaped tree (no empty and no adjacent text nodes) stays parser-shaped -/
theorem c07_merged_preserved (ws : Char → Bool) (hsp : ws ' ' = true) (t : Node)
    (h : merged t = true) : merged (reduceSpec ws t) = true := by
  have _ := hsp  -- holds for every content function; `hsp` is not needed
  exact (merged_reduce_all _).1 t .default h

/-- applying the reduction twice equals applying it once -/
theorem c07_idempotent (ws : Char → Bool) (hsp : ws ' ' = true) (t : Node)
    (h : merged t = true) :
    reduceSpec ws (reduceSpec ws t) = reduceSpec ws t :=
  (idem_reduce_all _ (spec_idem ws hsp)).1 t .default h

mutual
  /-- no empty text node and no `xml:space` attribute anywhere in the subtree -/
  def plainSubtree : Node → Bool
    | .tag _ _ attrs kids =>
      !(attrs.any (fun a => a.ns == Gen.xmlNamespace && a.name == "space")) && plainList kids
    | .text s => !s.isEmpty
    | _ => true
  def plainList : List Node → Bool
    | [] => true
    | k :: ks => plainSubtree k && plainList ks
end

/-- content under `xml:space="preserve"` (until overridden) is left untouched -/
theorem c07_preserve_untouched (rc : Str → Bool → Bool → Str) (t : Node)
    (h : plainSubtree t = true) : reduceNode rc .preserve t = t := by
  have key : (∀ t, plainSubtree t = true → reduceNode rc .preserve t = t) ∧
      (∀ l, plainList l = true → reduceList rc .preserve l = l) := by
    apply node_induct
    · intro ns name attrs kids ih h
      simp only [plainSubtree, Bool.and_eq_true, Bool.not_eq_true'] at h
      have hd := directive_of_no_space .preserve h.1
      rw [reduceNode_tag, hd, finishKids_preserve, ih h.2]
    · intros; simp
    · intros; simp
    · intros; simp
    · intros; simp
    · intro k ks ihk ihks h
      simp only [plainList, Bool.and_eq_true] at h
      rcases k.text_or_not with ⟨s, rfl⟩ | hk
      · have hs : s ≠ [] := by simpa [plainSubtree] using h.1
        rw [reduceList_text, if_neg hs, ihks h.2]
      · rw [reduceList_nontext _ _ _ _ hk, ihk h.1, ihks h.2]
  exact key.1 t h

/-- `merge_text_nodes` produces a parser-shaped tree -/
theorem c07_merge_merged (t : Node) : merged (mergeNode t) = true :=
  merged_merge_all.1 t

example : reduceSpec pyWs (.tag "" "e" [] [.text "  a \n b ".toList, .tag "" "x" [] [.text " ".toList],
            .text " ".toList, .comment "c".toList, .text " ".toList])
    = .tag "" "e" [] [.text "a b ".toList, .tag "" "x" [] [.text " ".toList],
            .text " ".toList, .comment "c".toList] := by rfl

end Delb.WS
