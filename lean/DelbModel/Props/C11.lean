import DelbModel.Model.Attrs
import DelbModel.Lemmas.Attrs
import DelbModel.Generated.Tables
/-!
# C11 — Attributes behave as a mapping keyed by namespace and local name

Property theorems only; helper lemmas are in `DelbModel/Lemmas/Attrs.lean`.

* The mapping part (set / delete / update / lookup / membership / iteration / length, through any accessor form)
  is a refinement of a dictionary keyed by canonical names.
* The view part holds for every state that satisfies the invariant `Inv` (`storeOk` and `ViewsOk`: the cached
  view of a store key is an attached view of that key, every attached view is the cached view of its key,
  cached keys are stored, ids are unique, detached views have a value).  `Inv` holds initially and is
  preserved by every operation (`c11_inv_initial`, `c11_inv_preserved`), hence in every reachable state
  (`c11_reachable_inv`).
* Equality of two collections is equality (same entries) of the dictionaries of reported names.

All of it is under `storeOk` (no key of the wrapped mapping carries the in-scope default namespace in Clark form),
which every operation preserves.  A parsed element can violate it from the start (`<e xmlns="urn:u" xmlns:p="urn:u"
p:a="1"/>`); there the implementation — and the model, which agrees with it — breaks the property: recorded finding
`prefixed-attribute-in-default-namespace`.
-/
namespace Delb.Attrs

/-! ## the mapping -/

/-- the store key of a qualified name depends only on its canonical form: the three accessor forms
    of one attribute — and `("", n)` / `(D, n)` — reach the same entry -/
theorem c11_same_entry (c : Ctx) (q₁ q₂ : QName) (h : canon c q₁ = canon c q₂) :
    etreeKey c q₁ = etreeKey c q₂ :=
  (etreeKey_eq_iff c q₁ q₂).2 h

/-- … and different attributes reach different entries -/
theorem c11_distinct_entries (c : Ctx) (q₁ q₂ : QName) (h : etreeKey c q₁ = etreeKey c q₂) :
    canon c q₁ = canon c q₂ :=
  (etreeKey_eq_iff c q₁ q₂).1 h

/-- lookup and membership are dictionary lookup -/
theorem c11_lookup (c : Ctx) (s : State) (a : Accessor) (hok : storeOk c s.store) :
    getValue c s a = dictGet (absStore s.store) (canon c (resolve c a)) ∧
    contains c s a = (dictGet (absStore s.store) (canon c (resolve c a))).isSome := by
  have h := sget_etreeKey hok (resolve c a)
  exact ⟨h, congrArg Option.isSome h⟩

/-- assignment is dictionary assignment (an existing entry keeps its position) -/
theorem c11_set (c : Ctx) (s : State) (a : Accessor) (v : Str) (hok : storeOk c s.store) :
    absStore (setItem c s a v).store = dictSet (absStore s.store) (canon c (resolve c a)) v ∧
    storeOk c (setItem c s a v).store := by
  refine ⟨?_, storeOk_setItem hok a v⟩
  rw [setItem_store]
  exact absStore_sset hok _ v

/-- `update` is a sequence of dictionary assignments -/
theorem c11_update (c : Ctx) (items : List (Accessor × Str)) (s : State) (hok : storeOk c s.store) :
    absStore (update c s items).store =
      items.foldl (fun d e => dictSet d (canon c (resolve c e.1)) e.2) (absStore s.store) ∧
    storeOk c (update c s items).store := by
  induction items generalizing s with
  | nil => exact ⟨rfl, hok⟩
  | cons e rest ih =>
    obtain ⟨h1, h2⟩ := c11_set c s e.1 e.2 hok
    have := ih (setItem c s e.1 e.2) h2
    simp only [update, List.foldl_cons] at this ⊢
    rw [h1] at this
    exact this

/-- deletion is dictionary deletion; it raises KeyError exactly for a missing entry -/
theorem c11_del (c : Ctx) (s : State) (a : Accessor) (hinv : Inv c s) :
    ((delItem c s a).2 = .keyError ↔ dictGet (absStore s.store) (canon c (resolve c a)) = none) ∧
    ((delItem c s a).2 ≠ .keyError →
        absStore (delItem c s a).1.store = dictDel (absStore s.store) (canon c (resolve c a)) ∧
        storeOk c (delItem c s a).1.store) := by
  have hok := hinv.1
  have hl := (c11_lookup c s a hok).2
  cases hc : contains c s a with
  | false =>
    rw [hc] at hl
    rw [delItem_keyError hc]
    refine ⟨⟨fun _ => ?_, fun _ => rfl⟩, fun h => absurd rfl h⟩
    cases hd : dictGet (absStore s.store) (canon c (resolve c a)) with
    | none => rfl
    | some x => rw [hd] at hl; cases hl
  | true =>
    rw [hc] at hl
    obtain ⟨s', hd, hst, -⟩ := delItem_spec hinv.2 hc
    rw [hd]
    refine ⟨⟨fun h => (by cases h), fun h => (by rw [h] at hl; cases hl)⟩, fun _ => ?_⟩
    show absStore s'.store = _ ∧ storeOk c s'.store
    rw [hst]
    exact ⟨absStore_sdel hok _, storeOk_sdel hok _⟩

/-- iteration and length are those of the dictionary (each attribute once, in store order) -/
theorem c11_iter_len (c : Ctx) (s : State) (hok : storeOk c s.store) :
    (iter c s).map (canon c) = (absStore s.store).map (·.1) ∧ len s = (absStore s.store).length ∧
    ((iter c s).map (canon c)).Nodup := by
  have h1 : (iter c s).map (canon c) = (absStore s.store).map (·.1) := by
    rw [absStore_keys]
    unfold iter
    rw [List.map_map, List.map_map]
    refine List.map_congr_left fun e he => ?_
    show canon c (iterName c e.1) = unkey e.1
    rw [← unkey_etreeKey, etreeKey_iterName (hok.1 e he)]
  refine ⟨h1, ?_, ?_⟩
  · simp [len, absStore]
  · rw [h1]; exact absStore_keys_nodup hok

/-! ## the invariant of reachable states -/

/-- a freshly wrapped element (no attribute objects yet) satisfies the invariant -/
theorem c11_inv_initial (c : Ctx) (st : Store) (n : Nat) (hok : storeOk c st) : Inv c ⟨st, [], [], n⟩ :=
  ⟨hok, viewsOk_empty c st n⟩

/-- every operation preserves the invariant -/
theorem c11_inv_preserved (c : Ctx) (s : State) (hinv : Inv c s) :
    (∀ a, Inv c (getItem c s a).1) ∧ (∀ a x, Inv c (setItem c s a x)) ∧ (∀ a, Inv c (delItem c s a).1) ∧
    (∀ vid x, Inv c (viewSetValue c s vid x)) ∧ (∀ vid nq, Inv c (renameView c s vid nq).1) ∧
    (∀ items, Inv c (update c s items)) ∧ (∀ a, Inv c (pop c s a).1) :=
  ⟨hinv.getItem, hinv.setItem, hinv.delItem, hinv.viewSetValue, hinv.renameView, fun items => hinv.update items,
   (inv_closed c).pop hinv⟩

/-- … so it holds in every state a client can reach -/
theorem c11_reachable_inv (c : Ctx) (s : State) (h : Reachable c s) : Inv c s := by
  induction h with
  | init st n hok => exact c11_inv_initial c st n hok
  | getItem a _ ih => exact ih.getItem a
  | setItem a x _ ih => exact ih.setItem a x
  | delItem a _ ih => exact ih.delItem a
  | viewSetValue vid x _ ih => exact ih.viewSetValue vid x
  | renameView vid nq _ ih => exact ih.renameView vid nq

/-- the attribute object a lookup returns is attached, denotes the looked-up attribute and is *the* object of
    that attribute: every spelling of the name gives the same object; the store is untouched -/
theorem c11_get_view (c : Ctx) (s : State) (a : Accessor) (hinv : Inv c s) (hc : contains c s a = true) :
    ∃ s' vid v, getItem c s a = (s', .view vid) ∧ s'.store = s.store ∧
      getView s' vid = some v ∧ v.attached = true ∧ canon c v.qname = canon c (resolve c a) ∧
      ∀ a', canon c (resolve c a') = canon c (resolve c a) → getItem c s' a' = (s', .view vid) := by
  obtain ⟨vid, hgi, hg⟩ := getItem_view hc
  obtain ⟨v, hv, ha, hk⟩ := (hinv.2.getItem a).cached _ _ hg
  have hst := getItem_store c s a
  refine ⟨_, vid, v, hgi, hst, hv, ha, c11_distinct_entries c _ _ hk, ?_⟩
  intro a' ha'
  have hk' := c11_same_entry c _ _ ha'
  refine getItem_hit ?_ (by rw [hk']; exact hg)
  unfold contains at hc ⊢
  rw [hk', hst]; exact hc

/-! ## attribute objects are live views -/

/-- (a) an attached attribute object shows the dictionary value of its name; a removed one shows the value it
    kept — reading the value never fails -/
theorem c11_view_value (c : Ctx) (s : State) (vid : Nat) (v : View) (hinv : Inv c s)
    (hv : getView s vid = some v) :
    (v.attached = true → ∃ x, viewValue c s vid = .value x ∧
        dictGet (absStore s.store) (canon c v.qname) = some x) ∧
    (v.attached = false → ∃ x, viewValue c s vid = .value x ∧ v.detachedValue = some x) := by
  constructor
  · intro ha
    obtain ⟨x, hx, hval⟩ := hinv.2.viewValue hv ha
    exact ⟨x, hval, by rw [← sget_etreeKey hinv.1, hx]⟩
  · intro ha
    have := hinv.2.detached vid v hv ha
    cases hd : v.detachedValue with
    | none => rw [hd] at this; cases this
    | some x => exact ⟨x, viewValue_detached hv ha hd, rfl⟩

/-- (b) writing through an attached attribute object changes exactly the dictionary entry of its name, the
    object shows the new value and no attribute object changes -/
theorem c11_view_set (c : Ctx) (s : State) (vid : Nat) (v : View) (y : Str) (hinv : Inv c s)
    (hv : getView s vid = some v) (ha : v.attached = true) :
    absStore (viewSetValue c s vid y).store = dictSet (absStore s.store) (canon c v.qname) y ∧
    viewValue c (viewSetValue c s vid y) vid = .value y ∧
    (∀ id, getView (viewSetValue c s vid y) id = getView s id) := by
  rw [viewSetValue_attached y hv ha]
  refine ⟨?_, ?_, fun _ => rfl⟩
  · exact absStore_sset hinv.1 _ y
  · exact viewValue_attached (s := { s with store := sset s.store (etreeKey c v.qname) y }) hv ha
      (sget_sset_self _ _ _)

/-- writing through a removed attribute object changes only what that object shows -/
theorem c11_view_set_removed (c : Ctx) (s : State) (vid : Nat) (v : View) (y : Str)
    (hv : getView s vid = some v) (ha : v.attached = false) :
    (viewSetValue c s vid y).store = s.store ∧ viewValue c (viewSetValue c s vid y) vid = .value y := by
  rw [viewSetValue_detached y hv ha]
  exact ⟨rfl, viewValue_detached (getView_putView_self s (w := { v with detachedValue := some y }) hv rfl) ha rfl⟩

/-- (c) after a removal through ANY accessor that denotes the attribute, the attribute object of that attribute
    is detached and keeps the value it showed before; every other attribute object shows what it showed and
    stays as attached as it was -/
theorem c11_del_detaches (c : Ctx) (s : State) (a : Accessor) (vid : Nat) (v : View) (x : Str) (hinv : Inv c s)
    (hv : getView s vid = some v) (ha : v.attached = true) (hx : viewValue c s vid = .value x)
    (hsame : canon c v.qname = canon c (resolve c a)) :
    (delItem c s a).2 = .unit ∧
    (∃ v', getView (delItem c s a).1 vid = some v' ∧ v'.attached = false) ∧
    viewValue c (delItem c s a).1 vid = .value x ∧
    (∀ wid w, getView s wid = some w → wid ≠ vid →
      viewValue c (delItem c s a).1 wid = viewValue c s wid ∧
      ∃ w', getView (delItem c s a).1 wid = some w' ∧ w'.attached = w.attached) := by
  have hk : etreeKey c v.qname = etreeKey c (resolve c a) := c11_same_entry c _ _ hsame
  have hg : cacheGet s.cache (etreeKey c (resolve c a)) = some vid := by
    rw [← hk]; exact hinv.2.attached vid v hv ha
  have hc : contains c s a = true := hinv.2.stored _ _ hg
  rw [delItem_eq hc (getItem_hit hc hg) hv hx]
  have hgv := getView_putView_eq s (w := { v with attached := false, detachedValue := some x }) hv rfl
  have hself := (hgv vid).trans (if_pos rfl)
  refine ⟨rfl, ⟨_, hself, rfl⟩, viewValue_detached hself rfl rfl, ?_⟩
  intro wid w hw hne
  have hw' := ((hgv wid).trans (if_neg hne)).trans hw
  refine ⟨viewValue_congr (hw'.trans hw.symm) (fun u hu hua => ?_), w, hw', rfl⟩
  cases hw.symm.trans hu
  exact (sget_sdel _ _ _).trans (if_neg fun e => hne (hinv.2.key_inj hw hv hua ha (e.trans hk.symm)))

/-- (d) assigning to an existing attribute — through any accessor that denotes it — keeps its attribute object:
    the object stays attached, shows the assigned value, and a lookup afterwards returns this object -/
theorem c11_set_keeps_view (c : Ctx) (s : State) (a a' : Accessor) (vid : Nat) (v : View) (y : Str) (hinv : Inv c s)
    (hv : getView s vid = some v) (ha : v.attached = true)
    (hsame : canon c (resolve c a) = canon c v.qname) (hsame' : canon c (resolve c a') = canon c v.qname) :
    getView (setItem c s a y) vid = some v ∧ viewValue c (setItem c s a y) vid = .value y ∧
    getItem c (setItem c s a y) a' = (setItem c s a y, .view vid) := by
  have hk : etreeKey c (resolve c a) = etreeKey c v.qname := c11_same_entry c _ _ hsame
  have hk' : etreeKey c (resolve c a') = etreeKey c v.qname := c11_same_entry c _ _ hsame'
  have hg : cacheGet s.cache (etreeKey c (resolve c a)) = some vid := by
    rw [hk]; exact hinv.2.attached vid v hv ha
  rw [setItem_hit y hg]
  refine ⟨hv, ?_, ?_⟩
  · exact viewValue_attached (s := { s with store := sset s.store (etreeKey c (resolve c a)) y }) hv ha
      (by rw [hk]; exact sget_sset_self _ _ _)
  · refine getItem_hit ?_ (by rw [hk', ← hk]; exact hg)
    show (sget (sset s.store (etreeKey c (resolve c a)) y) (etreeKey c (resolve c a'))).isSome = true
    rw [hk', ← hk, sget_sset_self]; rfl

/-- (e) renaming through an attached attribute object moves the dictionary entry (the old canonical name is
    deleted, the new one gets the value; another spelling of the same name changes nothing); the object stays
    attached, carries the new name and shows the value -/
theorem c11_rename (c : Ctx) (s : State) (vid : Nat) (v : View) (nq : QName) (x : Str) (hinv : Inv c s)
    (hv : getView s vid = some v) (ha : v.attached = true) (hx : viewValue c s vid = .value x) :
    (renameView c s vid nq).2 = .unit ∧
    absStore (renameView c s vid nq).1.store =
      (if canon c nq = canon c v.qname then absStore s.store
       else dictSet (dictDel (absStore s.store) (canon c v.qname)) (canon c nq) x) ∧
    (∃ v', getView (renameView c s vid nq).1 vid = some v' ∧ v'.attached = true ∧
      canon c v'.qname = canon c nq) ∧
    viewValue c (renameView c s vid nq).1 vid = .value x := by
  by_cases hk : etreeKey c nq = etreeKey c v.qname
  · have hcan : canon c nq = canon c v.qname := c11_distinct_entries c _ _ hk
    rw [renameView_alias hv ha hk, if_pos hcan]
    exact ⟨rfl, rfl, ⟨v, hv, ha, hcan.symm⟩, hx⟩
  · have hcan : ¬ canon c nq = canon c v.qname := fun e => hk (c11_same_entry c _ _ e)
    obtain ⟨x', hx', hval⟩ := hinv.2.viewValue hv ha
    cases hval.symm.trans hx
    obtain ⟨s', hr, hst, hgv, -⟩ := renameView_spec hinv.2 hv ha hk hx'
    rw [hr, if_neg hcan]
    have hself : getView s' vid = some { v with qname := nq, detachedValue := some x } := by
      rw [hgv vid, if_pos rfl]
    refine ⟨rfl, ?_, ⟨_, hself, ha, rfl⟩, ?_⟩
    · show absStore s'.store = _
      rw [hst, absStore_sdel (storeOk_sset hinv.1 nq x), absStore_sset hinv.1]
      exact dictDel_dictSet_comm _ _ hcan
    · refine viewValue_attached hself ha ?_
      show sget s'.store (etreeKey c nq) = some x
      rw [hst, sget_sdel, if_neg hk, sget_sset_self]

/-- a rename supersedes an attribute that has the new name: its attribute object is detached and keeps the value
    it showed; all other attribute objects show what they showed and stay as attached as they were -/
theorem c11_rename_others (c : Ctx) (s : State) (vid : Nat) (v : View) (nq : QName) (hinv : Inv c s)
    (hv : getView s vid = some v) (ha : v.attached = true) (wid : Nat) (w : View) (hw : getView s wid = some w)
    (hne : wid ≠ vid) :
    viewValue c (renameView c s vid nq).1 wid = viewValue c s wid ∧
    ∃ w', getView (renameView c s vid nq).1 wid = some w' ∧
      w'.attached = (w.attached && !(canon c w.qname == canon c nq && canon c nq != canon c v.qname)) := by
  by_cases hk : etreeKey c nq = etreeKey c v.qname
  · have hcan : canon c nq = canon c v.qname := c11_distinct_entries c _ _ hk
    rw [renameView_alias hv ha hk]
    exact ⟨rfl, w, hw, by simp [hcan]⟩
  · have hcan : ¬ canon c nq = canon c v.qname := fun e => hk (c11_same_entry c _ _ e)
    obtain ⟨x, hx, -⟩ := hinv.2.viewValue hv ha
    obtain ⟨s', hr, hst, hgv, -⟩ := renameView_spec hinv.2 hv ha hk hx
    rw [hr]
    show viewValue c s' wid = _ ∧ ∃ w', getView s' wid = some w' ∧ _
    have hgw := hgv wid
    rw [if_neg hne, hw] at hgw
    by_cases hsup : cacheGet s.cache (etreeKey c nq) = some wid
    · -- the superseded attribute
      obtain ⟨w', hw', hwa, hkw⟩ := hinv.2.cached _ _ hsup
      cases hw.symm.trans hw'
      obtain ⟨y, hy, hvaly⟩ := hinv.2.viewValue hw hwa
      rw [if_pos hsup, ← hkw, hy] at hgw
      refine ⟨(viewValue_detached hgw rfl rfl).trans hvaly.symm, _, hgw, ?_⟩
      simp [hwa, c11_distinct_entries c _ _ hkw, hcan]
    · rw [if_neg hsup] at hgw
      have hkw : w.attached = true → etreeKey c w.qname ≠ etreeKey c nq :=
        fun hwa e => hsup (e ▸ hinv.2.attached wid w hw hwa)
      refine ⟨viewValue_congr (hgw.trans hw.symm) (fun u hu hua => ?_), w, hgw, ?_⟩
      · cases hw.symm.trans hu
        rw [hst, sget_sdel, if_neg fun e => hne (hinv.2.key_inj hw hv hua ha e), sget_sset_ne _ _ (hkw hua)]
      · cases hwa : w.attached with
        | false => rfl
        | true =>
          have hcanw : ¬ canon c w.qname = canon c nq := fun e => hkw hwa (c11_same_entry c _ _ e)
          simp [hcanw]

/-- the name an attribute object reports is the name the iteration over the collection reports for the store key
    the object stands for - whatever spelling it was fetched or renamed with (so an object that is dropped and
    fetched again, e.g. after its node's wrapper was collected, reports the same name) -/
theorem c11_view_name_is_iterated_name (c : Ctx) (s : State) (vid : Nat) (v : View)
    (hv : getView s vid = some v) :
    viewName c s vid = some (iterName c (etreeKey c v.qname)) := by
  rw [viewName, hv, Option.map_some, reportedName_eq_iterName]

/-- two spellings of one name give one reported name -/
theorem c11_view_name_spelling (c : Ctx) (q₁ q₂ : QName) (h : etreeKey c q₁ = etreeKey c q₂) :
    reportedName c q₁ = reportedName c q₂ := by
  rw [reportedName_eq_iterName, reportedName_eq_iterName, h]

/-! ## equality -/

/-- equality of two attribute collections (elements with possibly different namespaces in scope) is equality of
    their dictionaries of reported names: the same (name, value) entries -/
theorem c11_eq_collections_iff (c₁ c₂ : Ctx) (s₁ s₂ : State) (h₁ : storeOk c₁ s₁.store) (h₂ : storeOk c₂ s₂.store) :
    eqCollections c₁ s₁ c₂ s₂ = true ↔ dictEquiv (reportedDict c₁ s₁.store) (reportedDict c₂ s₂.store) := by
  have hn₁ := reportedDict_keys_nodup h₁
  have hn₂ := reportedDict_keys_nodup h₂
  -- the loop of `__eq__` says: every entry of the first dictionary is an entry of the second
  have hall : ((iter c₁ s₁).all (fun key =>
      (iter c₂ s₂).contains key &&
      sameValue (getValue c₁ s₁ (.pair key.1 key.2)) (getValue c₂ s₂ (.pair key.1 key.2)))) = true ↔
      ∀ e, e ∈ reportedDict c₁ s₁.store → e ∈ reportedDict c₂ s₂.store := by
    simp only [List.all_eq_true, Bool.and_eq_true, List.contains_iff_mem, sameValue_eq_true, getValue, resolve, iter_eq]
    constructor
    · rintro h ⟨q, v⟩ he
      obtain ⟨hq, hv⟩ := (mem_reportedDict_iff h₁ q v).1 he
      obtain ⟨hq₂, x, hx₁, hx₂⟩ := h q hq
      cases hv.symm.trans hx₁
      exact (mem_reportedDict_iff h₂ q v).2 ⟨hq₂, hx₂⟩
    · intro h q hq
      obtain ⟨⟨q', v⟩, he, rfl⟩ := List.mem_map.1 hq
      obtain ⟨hq₂, hv₂⟩ := (mem_reportedDict_iff h₂ q' v).1 (h _ he)
      exact ⟨hq₂, v, ((mem_reportedDict_iff h₁ q' v).1 he).2, hv₂⟩
  unfold eqCollections
  rw [Bool.and_eq_true, hall, beq_iff_eq, dictEquiv, Assoc.same_entries_iff hn₁ hn₂]
  simp only [len, reportedDict, List.length_map]

/-- comparison with a plain mapping: same length, and every key of the mapping — whatever accessor form it has —
    is an attribute of the dictionary with that value -/
theorem c11_eq_mapping_iff (c : Ctx) (s : State) (other : List (Accessor × Str)) (hok : storeOk c s.store) :
    eqMapping c s other = true ↔
      (absStore s.store).length = other.length ∧
      ∀ e ∈ other, dictGet (absStore s.store) (canon c (resolve c e.1)) = some e.2 := by
  unfold eqMapping
  rw [Bool.and_eq_true, beq_iff_eq, List.all_eq_true, (c11_iter_len c s hok).2.1]
  refine and_congr Iff.rfl (forall_congr' fun e => forall_congr' fun _ => ?_)
  obtain ⟨hl, hcn⟩ := c11_lookup c s e.1 hok
  rw [Bool.and_eq_true, hl, hcn, beq_iff_eq]
  constructor
  · exact fun h => h.2
  · intro h; rw [h]; exact ⟨rfl, rfl⟩

/-- … hence, when the keys of the mapping denote pairwise different attributes, `==` is equality of the
    dictionaries: the canonical dictionary has exactly the entries of the mapping -/
theorem c11_eq_mapping_dict (c : Ctx) (s : State) (other : List (Accessor × Str)) (hok : storeOk c s.store)
    (hdistinct : (other.map (fun e => canon c (resolve c e.1))).Nodup) :
    eqMapping c s other = true ↔
      dictEquiv (absStore s.store) (other.map (fun e => (canon c (resolve c e.1), e.2))) := by
  have hkn := absStore_keys_nodup hok
  have hd : ((other.map (fun e => (canon c (resolve c e.1), e.2))).map (·.1)).Nodup := by
    rw [List.map_map]; exact hdistinct
  rw [c11_eq_mapping_iff c s other hok, dictEquiv]
  rw [show (∀ e, e ∈ absStore s.store ↔ e ∈ other.map (fun e => (canon c (resolve c e.1), e.2))) ↔
    ∀ e, e ∈ other.map (fun e => (canon c (resolve c e.1), e.2)) ↔ e ∈ absStore s.store from
      forall_congr' fun _ => Iff.comm, Assoc.same_entries_iff hd hkn, List.length_map]
  refine and_congr eq_comm ⟨fun h e he => ?_, fun h e he => ?_⟩
  · obtain ⟨e', he', rfl⟩ := List.mem_map.1 he
    rw [← Assoc.get_eq_some_iff hkn, ← dictGet_eq_get]
    exact h e' he'
  · rw [dictGet_eq_get, Assoc.get_eq_some_iff hkn]
    exact h _ (List.mem_map.2 ⟨e, he, rfl⟩)

/-! ## non-vacuity: the hypotheses of the theorems above are satisfiable

An element `<e xmlns="urn:u" xmlns:q="urn:q" a="1" q:b="2"/>`: the default namespace is the element's
(`exCtx`, `exStore`, `exInit`; `exHeld`: after `A["a"]` and `A["{urn:q}b"]`; `exRemoved`: after `del A[("", "a")]`;
defined with `exStore_ok` and `ex_reachable` in `Lemmas/Attrs.lean`). -/

/-- `storeOk` (hypothesis of c11_lookup, c11_set, c11_update, c11_iter_len, c11_eq_mapping_iff) and reachable
    states, hence `Inv` (hypothesis of c11_del, c11_get_view and of the view theorems) -/
example : storeOk exCtx exStore ∧ Reachable exCtx exInit ∧ Reachable exCtx exHeld ∧ Reachable exCtx exRemoved :=
  ⟨exStore_ok, ex_reachable⟩


/-- the three accessor forms and both pairs reach one entry (c11_same_entry), another namespace another one -/
example : etreeKey exCtx (resolve exCtx (.local_ "a")) = (none, "a") ∧
    etreeKey exCtx (resolve exCtx (.clark "urn:u" "a")) = (none, "a") ∧
    etreeKey exCtx (resolve exCtx (.pair "" "a")) = (none, "a") ∧
    etreeKey exCtx (resolve exCtx (.pair "urn:q" "a")) = (some "urn:q", "a") ∧
    canon exCtx (resolve exCtx (.local_ "a")) = canon exCtx (resolve exCtx (.pair "" "a")) := by
  decide +kernel

/-- an attached attribute object whose name has another spelling, with its value (hypotheses of c11_view_value,
    c11_view_set, c11_del_detaches with the alias `("", "a")`, c11_set_keeps_view, c11_rename), a second
    attached object (c11_rename_others), a name to rename to that supersedes it -/
example : Inv exCtx exHeld ∧ contains exCtx exHeld (.pair "" "a") = true ∧
    getView exHeld 0 = some ⟨0, true, ("urn:u", "a"), none⟩ ∧ viewValue exCtx exHeld 0 = .value ['1'] ∧
    canon exCtx ("urn:u", "a") = canon exCtx (resolve exCtx (.pair "" "a")) ∧
    getView exHeld 1 = some ⟨1, true, ("urn:q", "b"), none⟩ ∧ (1 : Nat) ≠ 0 ∧
    canon exCtx ("urn:q", "b") ≠ canon exCtx ("urn:u", "a") :=
  ⟨c11_reachable_inv _ _ ex_reachable.2.1, by decide +kernel, rfl, by decide +kernel, by decide +kernel, rfl, by decide +kernel, by decide +kernel⟩

/-- what the theorems say there: the removal through the other spelling detaches object 0 with its value, and
    renaming object 0 to `{urn:q}b` supersedes object 1, which keeps its value -/
example : viewValue exCtx exRemoved 0 = .value ['1'] ∧ (delItem exCtx exHeld (.pair "" "a")).2 = .unit ∧
    absStore exRemoved.store = [(("urn:q", "b"), ['2'])] ∧
    (renameView exCtx exHeld 0 ("urn:q", "b")).2 = .unit ∧
    absStore (renameView exCtx exHeld 0 ("urn:q", "b")).1.store = [(("urn:q", "b"), ['1'])] ∧
    viewValue exCtx (renameView exCtx exHeld 0 ("urn:q", "b")).1 0 = .value ['1'] ∧
    viewValue exCtx (renameView exCtx exHeld 0 ("urn:q", "b")).1 1 = .value ['2'] ∧
    (getItem exCtx (renameView exCtx exHeld 0 ("urn:q", "b")).1 (.clark "urn:q" "b")).2 = .view 0 := by
  decide +kernel

/-- a removed attribute object (hypotheses of c11_view_set_removed and of the second part of c11_view_value) -/
example : Inv exCtx exRemoved ∧ getView exRemoved 0 = some ⟨0, false, ("urn:u", "a"), some ['1']⟩ :=
  ⟨c11_reachable_inv _ _ ex_reachable.2.2, rfl⟩

/-- two elements with different namespaces in scope whose collections are equal (c11_eq_collections_iff): an
    attribute `{urn:u}a` of an element without default namespace, and `a` under the default namespace `urn:u`;
    and two that differ although their canonical dictionaries are the same list -/
example : storeOk ⟨"", ""⟩ [((some "urn:u", "a"), ['1'])] ∧ storeOk exCtx [((none, "a"), ['1'])] ∧
    eqCollections ⟨"", ""⟩ ⟨[((some "urn:u", "a"), ['1'])], [], [], 0⟩ exCtx ⟨[((none, "a"), ['1'])], [], [], 0⟩ = true ∧
    eqCollections ⟨"", ""⟩ ⟨[((none, "a"), ['1'])], [], [], 0⟩ exCtx ⟨[((none, "a"), ['1'])], [], [], 0⟩ = false := by
  refine ⟨⟨?_, by decide +kernel⟩, ⟨?_, by decide +kernel⟩, by decide +kernel, by decide +kernel⟩
  · intro e he ns hns
    simp only [List.mem_cons, List.not_mem_nil, or_false] at he
    subst he
    cases hns
    exact ⟨by decide +kernel, by decide +kernel⟩
  · intro e he ns hns
    simp only [List.mem_cons, List.not_mem_nil, or_false] at he
    subst he
    cases hns

/-- a plain mapping whose keys denote different attributes (hypothesis of c11_eq_mapping_dict) that compares equal,
    in three accessor forms -/
example : ([(Accessor.pair "" "a", ['1']), (Accessor.clark "urn:q" "b", ['2'])].map
      (fun e => canon exCtx (resolve exCtx e.1))).Nodup ∧
    eqMapping exCtx exInit [(.pair "" "a", ['1']), (.clark "urn:q" "b", ['2'])] = true ∧
    eqMapping exCtx exInit [(.local_ "a", ['1']), (.pair "urn:q" "b", ['2'])] = true ∧
    eqMapping exCtx exInit [(.local_ "a", ['1']), (.pair "urn:q" "b", ['3'])] = false := by
  decide +kernel

/-! ## names given as strings: Clark notation

"a local name, a Clark-notation name and a (namespace, name) pair that denote the same attribute
always reach the same entry" starts with reading the string.  `deconstructClark` models
`deconstruct_clark_notation`; the translator probes the real function on a table of names on every
run (`Gen.clarkProbes`). -/

/-- translator obligation: on the probed names (plain, Clark, empty namespace `{}a`, several braces,
    a brace in the middle, unbalanced - where Python raises) the model is the function of /repo -/
theorem c11_clark_probes :
    Gen.clarkProbes.length ≥ 10 ∧
    ∀ p ∈ Gen.clarkProbes, deconstructClark p.1 = (if p.2.2 = "<raises>" then none else some p.2) := by
  decide +kernel

/-- `"{ns}name"` reads as the pair `(ns, name)` - for every namespace (the empty one included) and every
    local name; a namespace cannot contain a closing brace in this notation -/
theorem c11_clark_notation (ns l : String) (h : '}' ∉ ns.toList) :
    accessorOfString ("{" ++ ns ++ "}" ++ l) = some (.clark ns l) := by
  simp [accessorOfString, deconstructClark_clark ns l h]

/-- … and a string that does not start with a brace is a local name -/
theorem c11_plain_name (n : String) (h : n.toList.head? ≠ some '{') :
    accessorOfString n = some (.local_ n) := by
  simp [accessorOfString, deconstructClark_plain n h]

/-- hence the Clark string and the pair reach the same entry on every element - in particular
    `"{}name"` is the attribute `("", name)`, not `name` in the element's namespace (seeded C11-9) -/
theorem c11_clark_string_same_entry (c : Ctx) (ns l : String) (h : '}' ∉ ns.toList) :
    (accessorOfString ("{" ++ ns ++ "}" ++ l)).map (resolve c) = some (resolve c (.pair ns l)) := by
  rw [c11_clark_notation ns l h]
  rfl

example : accessorOfString "{}a" = some (.clark "" "a") ∧ accessorOfString "a" = some (.local_ "a") ∧
    accessorOfString "{u" = none := by decide +kernel

end Delb.Attrs
