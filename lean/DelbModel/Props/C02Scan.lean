import DelbModel.Model.Scan
import DelbModel.Lemmas.Scan
import DelbModel.Lemmas.Scan.Build
import DelbModel.Lemmas.Scan.Emit
import DelbModel.Lemmas.Scan.Collect
import DelbModel.Props.C02
/-!
# C02, the string level — what the serializer writes is well-formed and scans back

`Props/C02.lean` proves the round trip on markup *tokens* (`build ∘ emitRoot`).  Here the step from
the output *string* back to tokens is closed with the scanner of `Model/Scan.lean`
(`c02_scan_serialize_roundtrip`).

`NamesOk` states, besides what lxml / delb check when nodes are made, three things XML does not
preserve and the serializer does not escape — each with a counterexample below
(`c02_scan_cr_lost`, `c02_scan_attr_ws_lost`, `c02_scan_pi_ws_lost`): a carriage return anywhere, a
tab or line feed in an attribute value, white space at the start of a PI's content.
-/
namespace Delb.Ser

/-- the string → tokens step: what `render` writes for well-formed tokens is accepted by the
    scanner and gives the tokens back (adjacent character data is one run of character data in
    the string, empty character data is nothing) -/
theorem c02_scan_render (ts : List Tok) (h : ToksOk ts) : scan (render ts) = some (mergeChars ts) :=
  scan_render ts h

/-- `mergeChars` changes neither the rendered string nor well-formedness -/
theorem c02_scan_merge_render (ts : List Tok) : render (mergeChars ts) = render ts :=
  render_mergeChars ts

theorem c02_scan_merge_ok (ts : List Tok) (h : ToksOk ts) : ToksOk (mergeChars ts) :=
  tokOk_mergeChars ts h

/-- the builder is insensitive to how character data is cut into tokens -/
theorem c02_scan_build_merge (ts : List Tok) (n : Node) (h : build ts = some n) :
    build (mergeChars ts) = some n :=
  build_mergeChars ts n h

/-- the comment grammar `((Char - '-') | ('-' (Char - '-')))*` in other words: no `--` inside and
    no `-` at the end (what delb's `CommentNode` checks) -/
theorem c02_scan_comment_grammar (s : Str) :
    commentBody s = true ↔ (∀ a b, s ≠ a ++ '-' :: '-' :: b) ∧ (∀ a, s ≠ a ++ ['-']) :=
  commentBody_iff s

/-- `hasPIEnd` is the occurrence of `?>` -/
theorem c02_scan_pi_end (s : Str) : hasPIEnd s = false ↔ ∀ a b, s ≠ a ++ '?' :: '>' :: b :=
  hasPIEnd_false_iff s

/-- what the serializer emits is well-formed: for every tree it can write (`Serializable`) whose
    names, values and contents can be written (`NamesOk`), under a prefix map with the C13
    guarantees whose namespaces and prefixes can be written (`MapNamesOk`) -/
theorem c02_scan_emitted (nsmap m : Dict) (t : Node) (hs : Serializable t) (hm : PMapOk nsmap m t)
    (hnames : NamesOk t) (hmn : MapNamesOk m) (toks : List Tok) (h : emitRoot m t = .ok toks) :
    ToksOk toks :=
  emitRoot_tokOk hm.ctx hmn t toks h hs hnames

/-- the prefix map `_collect_prefixes` produces can be written (`MapNamesOk`: its namespaces can be written as
    attribute values, its prefixes consist of name characters), for every tree whose names can be written and
    every caller mapping whose prefixes consist of name characters (`NsMapNamesOk`): it only stores namespaces of
    the tree and prefixes that are empty, taken from the caller's mapping, or generated as `ns{i}` -/
theorem c02_scan_collect_names (nsmap : Dict) (hnn : NsMapNamesOk nsmap) (root : Node)
    (hnames : NamesOk root) (orders : List (List String)) (ho : ordersValid root orders = true)
    (m : Dict) (h : collect nsmap root orders = .ok m) : MapNamesOk m :=
  collect_mapNamesOk hnn root hnames orders ho m h

/-- serialize, scan, build: for every tree the serializer can write, every accepted caller mapping
    and every iteration order of the namespace sets, the output *string* of `TagNode.serialize()`
    is well-formed and is read back as the original tree (adjacent text merged, empty text
    dropped, attributes in written order) -/
theorem c02_scan_serialize_roundtrip (nsmap : Dict) (hn : NsMapOk nsmap) (hnn : NsMapNamesOk nsmap)
    (root : Node) (htag : root.isTag = true) (hs : Serializable root) (hnames : NamesOk root)
    (orders : List (List String)) (ho : ordersValid root orders = true) (s : Str)
    (h : serialize nsmap root orders = .ok s) :
    (scan s).bind build = some (normalize root) := by
  unfold serialize at h
  cases hc : collect nsmap root orders with
  | error e => rw [hc] at h; cases h
  | ok m =>
    rw [hc] at h
    obtain ⟨toks, ht, hb⟩ := c02_serialize_roundtrip nsmap hn root htag hs orders ho m hc
    simp only [ht] at h
    cases h
    have hm := c13_collect_ok nsmap hn root orders ho m hc
    have hmn := c02_scan_collect_names nsmap hnn root hnames orders ho m hc
    rw [c02_scan_render toks (c02_scan_emitted nsmap m root hs hm hnames hmn toks ht)]
    exact c02_scan_build_merge toks _ hb

/-- … in particular the output is accepted by the scanner -/
theorem c02_scan_serialize_wellformed (nsmap : Dict) (hn : NsMapOk nsmap) (hnn : NsMapNamesOk nsmap)
    (root : Node) (htag : root.isTag = true) (hs : Serializable root) (hnames : NamesOk root)
    (orders : List (List String)) (ho : ordersValid root orders = true) (s : Str)
    (h : serialize nsmap root orders = .ok s) : (scan s).isSome = true := by
  have := c02_scan_serialize_roundtrip nsmap hn hnn root htag hs hnames orders ho s h
  cases hsc : scan s with
  | none => rw [hsc] at this; cases this
  | some _ => rfl

/-! ## what XML does not preserve and the serializer does not escape

Each of the three extra conditions of `NamesOk` / `ToksOk` is needed: the rendered string is
accepted, but read back differently (XML 1.0 §2.11, §3.3.3, §2.6). -/

/-- a carriage return in character data comes back as a line feed -/
theorem c02_scan_cr_lost :
    scan (render [.stag "a".toList [] false, .chars "x\ry".toList, .etag "a".toList]) =
      some [.stag "a".toList [] false, .chars "x\ny".toList, .etag "a".toList] := by
  repeat rw [String.toList_ofList]
  decide +kernel

/-- a tab (or line feed) in an attribute value comes back as a space -/
theorem c02_scan_attr_ws_lost :
    scan (render [.stag "a".toList [("k".toList, "x\ty".toList)] true]) =
      some [.stag "a".toList [("k".toList, "x y".toList)] true] := by
  repeat rw [String.toList_ofList]
  decide +kernel

/-- white space at the start of a PI's content belongs to the separator -/
theorem c02_scan_pi_ws_lost :
    scan (render [.stag "a".toList [] false, .pi "p" " x".toList, .etag "a".toList]) =
      some [.stag "a".toList [] false, .pi "p" "x".toList, .etag "a".toList] := by
  repeat rw [String.toList_ofList]
  decide +kernel

/-! ## examples -/

/-- attributes with `"`, `<`, `&`, `>`; text with `]]>` and `&` next to another text node; a
    comment with a single `-`; a PI with a single `?`; nested elements in three namespaces -/
def scanExample : Node :=
  .tag "urn:a" "r" [⟨"", "k", "a\"<&>b".toList⟩, ⟨"urn:b", "j", "1".toList⟩]
    [.text "x]]>&".toList, .text "y".toList, .comment " c - d ".toList, .pi "p" "q ? r".toList,
     .tag "urn:b" "e" [] [.tag "" "f" [] [], .text "t".toList]]

def scanExampleMap : Dict := [("xml", Gen.xmlNamespace), ("xmlns", Gen.xmlnsNamespace)]

def scanExampleOut : Str :=
  ("<ns0:r xmlns:ns0=\"urn:a\" xmlns:ns1=\"urn:b\" k=\"a&quot;&lt;&amp;&gt;b\" ns1:j=\"1\">" ++
   "x]]&gt;&amp;y<!-- c - d --><?p q ? r?><ns1:e><f/>t</ns1:e></ns0:r>").toList

def scanExampleToks : List Tok :=
  [.stag "ns0:r".toList [("xmlns:ns0".toList, "urn:a".toList), ("xmlns:ns1".toList, "urn:b".toList),
      ("k".toList, "a\"<&>b".toList), ("ns1:j".toList, "1".toList)] false,
   .chars "x]]>&y".toList, .comment " c - d ".toList, .pi "p" "q ? r".toList,
   .stag "ns1:e".toList [] false, .stag "f".toList [] true, .chars "t".toList,
   .etag "ns1:e".toList, .etag "ns0:r".toList]

/-- what `TagNode.serialize()` writes for the example -/
theorem scanExample_serialize :
    (serialize scanExampleMap scanExample (defaultOrders scanExample)).toOption = some scanExampleOut := by
  rw [show scanExampleOut = _ from toList_append_of_eq_ofList rfl rfl]
  decide +kernel

set_option maxRecDepth 8000 in
example : (serialize scanExampleMap scanExample (defaultOrders scanExample)).toOption =
    some scanExampleOut := scanExample_serialize

set_option maxRecDepth 8000 in
example : scan scanExampleOut = some scanExampleToks := by
  rw [show scanExampleOut = _ from toList_append_of_eq_ofList rfl rfl]
  decide +kernel

example : build scanExampleToks = some (normalize scanExample) := by
  unfold scanExampleToks scanExample
  repeat rw [String.toList_ofList]
  rfl

/-- the hypotheses of `c02_scan_render` hold for what is emitted, and two text nodes were merged -/
example : ∃ m toks, collect scanExampleMap scanExample (defaultOrders scanExample) = .ok m ∧
    emitRoot m scanExample = .ok toks ∧ ToksOk toks ∧ toks.length = 10 ∧
    mergeChars toks = scanExampleToks :=
  ⟨[("urn:a", "ns0:"), ("", ""), ("urn:b", "ns1:")],
    (exists_ok_of_any (by decide +kernel)).imp fun _ h => ⟨eq_ok_of_toOption (by decide +kernel), h⟩⟩

set_option maxRecDepth 8000 in
/-- the hypotheses of `c02_scan_serialize_roundtrip` can be met (non-vacuity) -/
example : (scan scanExampleOut).bind build = some (normalize scanExample) :=
  c02_scan_serialize_roundtrip scanExampleMap ⟨by decide +kernel, by decide +kernel, by decide +kernel, by decide +kernel⟩
    (by unfold NsMapNamesOk; decide +kernel) scanExample rfl
    (by simp only [scanExample, Serializable, SerializableList]; decide +kernel)
    (by simp only [scanExample, NamesOk, NamesOkList]; decide +kernel)
    (defaultOrders scanExample) (by decide +kernel) scanExampleOut (eq_ok_of_toOption scanExample_serialize)

/-! ### rejections

The literals are read as character lists first (`String.toList_ofList` applies to a literal as it stands);
evaluating `"…".toList` on byte arrays is what would be slow. -/

/-- `<` in an attribute value -/
example : scan "<a b=\"<\"/>".toList = none := by
  repeat rw [String.toList_ofList]
  decide +kernel
/-- a `&` that starts no reference; `unescape` alone would let it pass -/
example : scan "<a>&foo;</a>".toList = none ∧ scan "<a k=\"&\"/>".toList = none ∧
    unescape "&foo;".toList = "&foo;".toList := by
  repeat rw [String.toList_ofList]
  decide +kernel
/-- the same attribute twice -/
example : scan "<a k=\"1\" k=\"2\"/>".toList = none := by
  repeat rw [String.toList_ofList]
  decide +kernel
/-- `]]>` in character data, `--` in a comment, a comment ending in `--->`, a PI named `xml` -/
example : scan "<a>]]></a>".toList = none ∧ scan "<a><!-- -- --></a>".toList = none ∧
    scan "<a><!-- ---></a>".toList = none ∧ scan "<a><?XmL x?></a>".toList = none := by
  repeat rw [String.toList_ofList]
  decide +kernel
/-- unterminated constructs, an empty name, white space in the wrong place, a control character -/
example : scan "<a".toList = none ∧ scan "<a k=\"1/>".toList = none ∧ scan "<a><!-- c".toList = none ∧
    scan "<a><?p q".toList = none ∧ scan "<>".toList = none ∧ scan "< a/>".toList = none ∧
    scan "<a k =\"1\"/>".toList = none ∧ scan "<a k=\"1\"j=\"2\"/>".toList = none ∧
    scan "</ a>".toList = none ∧ scan "<a>\x01</a>".toList = none := by
  repeat rw [String.toList_ofList]
  decide +kernel
/-- an unclosed element is a fine token stream; nesting is the builder's job -/
example : scan "<a>".toList = some [.stag "a".toList [] false] ∧
    build [.stag "a".toList [] false] = none := ⟨by rw [String.toList_ofList]; decide +kernel, by rfl⟩
example : (scan "<a><b></a></b>".toList).isSome = true ∧
    ((scan "<a><b></a></b>".toList).bind build).isNone = true := by
  repeat rw [String.toList_ofList]
  decide +kernel
/-- the first base input of `harness/dev/scan_vs_lxml/difftest.py` -/
example : scan "<a x=\"1&amp;\">t&lt;<!--c--><?p q?><b/></a>".toList =
    some [.stag "a".toList [("x".toList, "1&".toList)] false, .chars "t<".toList, .comment "c".toList,
      .pi "p" "q".toList, .stag "b".toList [] true, .etag "a".toList] := by
  repeat rw [String.toList_ofList]
  decide +kernel

end Delb.Ser
