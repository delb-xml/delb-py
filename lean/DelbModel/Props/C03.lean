import DelbModel.Model.Pretty
import DelbModel.Lemmas.PrettyTransparent
import DelbModel.Props.C02
import DelbModel.Props.C07
/-!
# C03 — formatted output is whitespace-transparent for normalised documents

Model: `Model/Pretty.lean` (`PrettySerializer`, i.e. `FormatOptions(width = 0)`), read back with
`Ser.build` (C02) and reduced with `WS.reduceSpec` (C07, proven equal to the code's reduction).
The hypotheses `Reduced` and `IndentOk` are defined in `Lemmas/PrettyTransparent.lean`.
-/
namespace Delb.Pretty
open Delb.Ser Delb.WS

set_option linter.unusedVariables false in
/-- **whitespace transparency, width 0**: for every reduced tree, every whitespace indentation,
    attribute alignment on or off, and every prefix map with the C13 guarantees, reading the
    pretty-printed output back and reducing its whitespace gives the original tree -/
theorem c03_pretty_transparent (o : Opts) (ho : IndentOk o) (nsmap m : Dict) (hn : NsMapOk nsmap) (t : Node)
    (htag : t.isTag = true) (hs : Serializable t) (hm : PMapOk nsmap m t) (hr : Reduced t)
    (ps : List Piece) (h : prettyRoot o m t = .ok ps) :
    ∃ u, build (eraseAll ps) = some u ∧ reduceSpec pyWs u = normalize t :=
  pretty_transparent o ho hm.ctx t htag hs hr ps h

/-- … composed with prefix collection (C13): the whole `serialize(format_options=…)` call -/
theorem c03_serialize_pretty_transparent (o : Opts) (ho : IndentOk o) (nsmap : Dict) (hn : NsMapOk nsmap)
    (root : Node) (htag : root.isTag = true) (hs : Serializable root) (hr : Reduced root)
    (orders : List (List String)) (hord : ordersValid root orders = true) (m : Dict)
    (h : collect nsmap root orders = .ok m) :
    ∃ ps u, prettyRoot o m root = .ok ps ∧ build (eraseAll ps) = some u ∧ reduceSpec pyWs u = normalize root := by
  have hm := c13_collect_ok nsmap hn root orders hord m h
  obtain ⟨ps, hps⟩ := prettyRoot_total o m root htag hm.total
  obtain ⟨u, hu, hred⟩ := c03_pretty_transparent o ho nsmap m hn root htag hs hm hr ps hps
  exact ⟨ps, u, hps, hu, hred⟩

/-- indentation and line breaks consist of whitespace only -/
theorem c03_layout_is_whitespace (o : Opts) (ho : IndentOk o) (m : Dict) (t : Node) (ps : List Piece)
    (h : prettyRoot o m t = .ok ps) :
    ∀ s, Piece.layout s ∈ ps → ∀ c ∈ s, pyWs c = true :=
  prettyRoot_layout o ho m t ps h

/-- no non-whitespace character is altered: the non-whitespace characters of the text read back
    are those of the original, in order -/
theorem c03_nonws_unaltered (o : Opts) (ho : IndentOk o) (nsmap m : Dict) (hn : NsMapOk nsmap) (t : Node)
    (htag : t.isTag = true) (hs : Serializable t) (hm : PMapOk nsmap m t) (hr : Reduced t)
    (ps : List Piece) (h : prettyRoot o m t = .ok ps) :
    ∃ u, build (eraseAll ps) = some u ∧ nonWs pyWs (fullText u) = nonWs pyWs (fullText t) := by
  obtain ⟨u, hu, hred⟩ := c03_pretty_transparent o ho nsmap m hn t htag hs hm hr ps h
  refine ⟨u, hu, ?_⟩
  rw [← c07_nonws_preserved pyWs pyWs_space u, hred, fullText_normalize.1]

/-- content under `xml:space="preserve"` is emitted verbatim: such a subtree is written by the plain
    serializer (whose output C02 shows to be read back unchanged) with no layout piece at all -/
theorem c03_preserve_verbatim (o : Opts) (m : Dict) (level : Nat) (ad : List (Str × Str))
    (ns name : String) (attrs : List Attr) (kids : List Node)
    (hp : directive attrs .default = .preserve) (ps : List Piece)
    (h : prettyTag o m level ad (.tag ns name attrs kids) = .ok ps) :
    ∃ ts, ps = [.verbatim ts] ∧
      ∃ qn a0 sc rest, emitNode m (.tag ns name attrs kids) = .ok (.stag qn a0 sc :: rest) ∧ ts = .stag qn ad sc :: rest := by
  obtain ⟨qn, a0, sc, rest, he, _, rfl⟩ := prettyTag_preserve_any hp h
  exact ⟨_, rfl, qn, a0, sc, rest, he, rfl⟩

/-! non-vacuity: a reduced mixed-content tree -/
example : Reduced (.tag "" "p" [] [.text "Hold ".toList, .tag "" "hi" [] [.text "the".toList], .text " thieves!".toList]) := by
  constructor <;> rfl

/-! ## totality (width 0)

The pretty serializer recurses structurally (no budget); with a prefix for every namespace of the tree
it yields an output (`prettyRoot_total`), and prefix collection succeeds under the size bound of
`c13_collect_total`. -/

/-- **`serialize(format_options=FormatOptions(width=0, …))` yields an output** -/
theorem c03_serialize_pretty_total (o : Opts) (nsmap : Dict) (hn : NsMapOk nsmap)
    (root : Node) (htag : root.isTag = true)
    (orders : List (List String)) (hord : ordersValid root orders = true)
    (hsmall : (Ser.dedup (treeNamespaces root)).length + nsmap.length ≤ 65538) :
    ∃ s, serializePretty o nsmap root orders = .ok s := by
  obtain ⟨m, hm, hok⟩ := c13_collect_total_ok nsmap hn root orders hord hsmall
  obtain ⟨ps, hps⟩ := prettyRoot_total o m root htag hok.total
  exact ⟨renderP ps, by simp only [serializePretty, hm, hps]⟩

/-- whitespace transparency of the whole call, without assuming a successful run -/
theorem c03_serialize_pretty_transparent_total (o : Opts) (ho : IndentOk o) (nsmap : Dict)
    (hn : NsMapOk nsmap) (root : Node) (htag : root.isTag = true) (hs : Serializable root)
    (hr : Reduced root) (orders : List (List String)) (hord : ordersValid root orders = true)
    (hsmall : (Ser.dedup (treeNamespaces root)).length + nsmap.length ≤ 65538) :
    ∃ ps u, serializePretty o nsmap root orders = .ok (renderP ps) ∧
      build (eraseAll ps) = some u ∧ reduceSpec pyWs u = normalize root := by
  obtain ⟨m, hm⟩ := c13_collect_total nsmap hn root orders hord hsmall
  obtain ⟨ps, u, hps, hu, hred⟩ :=
    c03_serialize_pretty_transparent o ho nsmap hn root htag hs hr orders hord m hm
  exact ⟨ps, u, by simp only [serializePretty, hm, hps], hu, hred⟩

/-! non-vacuity: a reduced mixed-content tree with two namespaces -/
example : ∃ s, serializePretty ⟨"  ".toList, false⟩
    [("xml", Gen.xmlNamespace), ("xmlns", Gen.xmlnsNamespace)]
    (.tag "urn:a" "p" [] [.text "Hold ".toList, .tag "urn:b" "hi" [] [.text "the".toList], .text " thieves!".toList])
    [["urn:a"], ["urn:b"]] = .ok s :=
  c03_serialize_pretty_total _ _ ⟨by decide +kernel, by decide +kernel, by decide +kernel, by decide +kernel⟩ _ rfl _
    (by decide +kernel) (by decide +kernel)

end Delb.Pretty
