import DelbModel.Model.Edit
import DelbModel.Lemmas.Edit
/-!
# C01 — Tree edits behave like edits on a plain ordered tree

Mechanism = the slot/chain encoding (`El`, `stepC`); specification = plain ordered trees with
node identities (`PTree`, `stepA`); `abs` / `absState` is the abstraction map.
-/
namespace Delb.Edit

/-- every single-node edit on the child list of a tag — `_add_following_sibling`,
    `_add_preceding_sibling` (every DATA / TAIL / APPENDED case, element or text offered),
    `__add_first_child`, content assignment — is the corresponding list splice -/
theorem c01_child_op (op : ChildOp) (e e' : El) (h : applyChildOp op e = .ok e') :
    applyChildOpP op (abs e) = .ok (abs e') := by
  exact (applyChildOp_sim op e).ok_eq h

/-- … and it is rejected by the mechanism exactly when the splice is undefined -/
theorem c01_child_op_error (op : ChildOp) (e : El) (err : EditErr) (h : applyChildOp op e = .error err) :
    ∃ err', applyChildOpP op (abs e) = .error err' := by
  exact (applyChildOp_sim op e).of_error h

/-- `detach()`: the node comes off with its own subtree and without the text that followed it;
    all other children keep their order -/
theorem c01_detach_child (i : Nat) (e e' : El) (off : Offered) (h : detachChild i e = .ok (e', off)) :
    detachChildP i (abs e) = .ok (abs e', absOffered off) := by
  exact (detachChild_sim i e).ok_eq h

/-- `merge_text_nodes` concatenates every run of adjacent text nodes into its first node -/
theorem c01_merge (e : El) : abs (mergeEl e) = mergeP (abs e) := by
  exact abs_mergeEl e

/-- a deep clone is the same tree with fresh identities -/
theorem c01_clone (n : Nat) (e : El) :
    abs (cloneEl n e).1 = (cloneP n (abs e)).1 ∧ (cloneEl n e).2 = (cloneP n (abs e)).2 := by
  rw [cloneEl_abs e n]; exact ⟨rfl, rfl⟩

/-- refinement: every mechanism step is the specification step on the abstracted state -/
theorem c01_step (s s' : StateC) (p : Prim) (h : stepC s p = .ok s') :
    stepA (absState s) p = .ok (absState s') := by
  exact (step_sim s p).ok_eq h

theorem c01_step_error (s : StateC) (p : Prim) (err : EditErr) (h : stepC s p = .error err) :
    ∃ err', stepA (absState s) p = .error err' := by
  exact (step_sim s p).of_error h

/-- … hence after any history of edits the real encoding still abstracts to what the same
    history does to a plain ordered tree (no bound on length, depth or chain lengths) -/
theorem c01_history (s s' : StateC) (ops : List Prim) (h : runC s ops = .ok s') :
    runA (absState s) ops = .ok (absState s') := by
  exact (run_sim s ops).ok_eq h

/-- moving nodes around loses, duplicates and alters no text: sibling insertion of an existing
    group, first-child insertion of an existing group and detaching only permute the text nodes
    of the forest -/
theorem c01_no_text_lost (s s' : StateA) (p : Prim) (h : stepA s p = .ok s')
    (hp : (∃ a g, p = .addFollowing a (.group g)) ∨ (∃ a g, p = .addPreceding a (.group g)) ∨
          (∃ a g, p = .addFirst a (.group g)) ∨ (∃ a, p = .detach a)) :
    (allTexts s').Perm (allTexts s) := by
  rcases hp with ⟨a, g, rfl⟩ | ⟨a, g, rfl⟩ | ⟨a, g, rfl⟩ | ⟨a, rfl⟩
  · simp only [stepA] at h
    split at h
    · cases h
    · rename_i p i _
      exact move_perm _ (fun new t t' ht => insertBelow_perm (fun parent => i < parent.kids.length) _ new p t t' ht)
        s s' a.g g h
  · simp only [stepA] at h
    split at h
    · cases h
    · rename_i p i _
      exact move_perm _ (fun new t t' ht => insertBelow_perm (fun parent => i < parent.kids.length) _ new p t t' ht)
        s s' a.g g h
  · exact move_perm _ (fun new t t' ht =>
      insertBelow_perm (fun parent => (parent.isTag && parent.kids.isEmpty) = true) _ new a.path t t' ht) s s' a.g g h
  · obtain rfl | ⟨p, i, t, off, t', hg, hoff, ht', rfl⟩ := stepA_detach_inv h
    · exact List.Perm.refl _
    · have e1 : (allTexts s).Perm (allTexts { s with groups := s.groups.set a.g (some t') } ++ textsOf off) :=
        flatMap_set_perm' _ (y := some t') hg (by simpa using detach_perm i off hoff t' ht')
      simpa [allTexts] using e1.symm

/-- non-vacuity: a three-node chain on a tail slot, an element inserted after its middle node -/
example :
    (applyChildOp (.addFollowing 2 (.el (.tag 9 "" "e" [] [] [])))
      (.tag 0 "" "r" [] [] [(.tag 1 "" "a" [] [] [], [⟨2, "t".toList⟩, ⟨3, "u".toList⟩, ⟨4, "v".toList⟩])])).toOption.map abs
    = some (.tag 0 "" "r" [] [.tag 1 "" "a" [] [], .text 2 "t".toList, .text 3 "u".toList,
                              .tag 9 "" "e" [] [], .text 4 "v".toList]) := by rfl

end Delb.Edit
