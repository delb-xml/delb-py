import DelbModel.Model.XPath.Parser
import DelbModel.Lemmas.XPath
import DelbModel.Model.Cache
import DelbModel.Lemmas.Cache
import DelbModel.Generated.CacheSkeleton
/-!
# C16 — Any string is either a parsed XPath expression or an XPathParsingError

Property theorems only; helper lemmas are in `DelbModel/Lemmas/XPath.lean`.
`parse : Str → Except Err XExpr` is the line-by-line model of `tokenize`,
`group_enclosed_expressions`, `parse_location_path/step`, `parse_evaluation_expression`
and `parse`; `Err.pyError` marks every place where Python would raise something that
is not an `XPathParsingError`, `Err.outOfFuel` marks non-termination of a loop.
-/
namespace Delb.XPath

/-- generated-table obligations the theorems rely on (re-checked against /repo each run) -/
theorem c16_tables :
    Gen.tokGroups.getLast? = some "ERROR" ∧
    (∀ l ∈ Gen.tokLiterals, l.1 ≠ [] ∧ (TokType.ofName l.2).isSome) ∧
    lookupFunction "position" Gen.xpathFunctions = some (1, false) ∧
    (∀ a ∈ ["ancestor", "ancestor_or_self", "child", "descendant", "descendant_or_self",
            "following", "following_sibling", "parent", "preceding", "preceding_sibling", "self"],
        a ∈ Gen.axisAttrNames) := by
  decide +kernel

/-- the tokenizer terminates and fails only with "Unrecognized token." at an index inside
    the string -/
theorem c16_tokenize_total (s : Str) (e : Err) (h : tokenize s = .error e) :
    ∃ p, e = .parsing (some p) "Unrecognized token." ∧ p < s.length :=
  (tokenize_spec s).error_of h

/-- every token is a non-empty slice of the input at its recorded position -/
theorem c16_token_positions (s : Str) (ts : List Token) (h : tokenize s = .ok ts) :
    ∀ t ∈ ts, t.str ≠ [] ∧ (s.drop t.pos).take t.str.length = t.str ∧
      t.pos + t.str.length ≤ s.length :=
  (tokenize_spec s).ok_of h

/-- no exception type other than XPathParsingError can escape: none of the modelled
    IndexError / KeyError / AssertionError / NotImplementedError sites is reachable -/
theorem c16_no_python_error (s : Str) (kind site : String) :
    parse s ≠ .error (.pyError kind site) :=
  fun h => ((parse_errOK s).error_of h).1

/-- parsing terminates (the fuel `parse` hands to the recursive-descent parts suffices) -/
theorem c16_terminates (s : Str) : parse s ≠ .error .outOfFuel :=
  fun h => ((parse_errOK s).error_of h).1

/-- an error always carries a position (the `except` clause of `parse` fills in 0) -/
theorem c16_position_set (s : Str) (msg : String) : parse s ≠ .error (.parsing none msg) :=
  fun h => ((parse_errOK s).error_of h).2 msg rfl

/-- … and that position lies inside the expression -/
theorem c16_position_inside (s : Str) (p : Nat) (msg : String) :
    (parse s = .error (.parsing (some p) msg) ∨ parse s = .error (.unsupported p msg)) →
    p ≤ s.length := by
  rintro (h | h) <;> exact ((parse_errOK s).error_of h).1

/-- summary: every string is either an expression or a parsing error with a position inside it -/
theorem c16_total (s : Str) :
    (∃ x, parse s = .ok x) ∨
    (∃ p msg, p ≤ s.length ∧
      (parse s = .error (.parsing (some p) msg) ∨ parse s = .error (.unsupported p msg))) := by
  cases h : parse s with
  | ok x => exact Or.inl ⟨x, rfl⟩
  | error e =>
    obtain ⟨h1, h2⟩ := (parse_errOK s).error_of h
    cases e with
    | parsing pos msg =>
      cases pos with
      | none => exact absurd rfl (h2 msg)
      | some p => exact Or.inr ⟨p, msg, h1, Or.inl rfl⟩
    | unsupported p msg => exact Or.inr ⟨p, msg, h1, Or.inr rfl⟩
    | pyError kind site => exact h1.elim
    | outOfFuel => exact h1.elim

/-! ## "cached and freshly parsed expressions are equal and evaluate identically"

`tokenize`, `parse` and `_css_to_xpath` sit behind `functools.lru_cache`.  Two things make that
unobservable: the cache only ever hands out what the function returns for that key (theorems over
`Model/Cache.lean`, for every history of calls and `cache_clear()`s, every `maxsize`, starting from
the empty cache), and the shared objects it hands out are never changed after construction
(translator obligations over `Generated/CacheSkeleton.lean`, re-derived from /repo on every run). -/

/-- translator obligation: every memoised function of the XPath package changes nothing it
    receives or sees (it is a function of its key) -/
theorem c16_cache_sites :
    Gen.cachedFunctions ≠ [] ∧ ∀ c ∈ Gen.cachedFunctions, c.objectsMutated = 0 := by
  decide +kernel

/-- translator obligation: outside the constructors no function of `_delb/xpath/ast.py` - memoised
    properties included - stores into an expression object (or into anything else it did not create
    itself), and constructors store into `self` only.  (Names are not fixed: renaming a method or a
    property does not touch this obligation; the table must not be empty.) -/
theorem c16_ast_immutable :
    (∀ m ∈ Gen.astMethods, m.isConstructor = false → m.selfMutations = 0 ∧ m.foreignMutations = 0) ∧
    (∀ m ∈ Gen.astMethods, m.isConstructor = true → m.foreignMutations = 0) ∧
    20 ≤ Gen.astMethods.length ∧ (∃ m ∈ Gen.astMethods, m.isConstructor = true) := by
  decide +kernel

/-- translator obligation: no function of the tokenizer and the parser stores into anything it did
    not create itself (outside constructors) - the token lists and expressions that the caches hand
    out are not altered by a later parse that receives them -/
theorem c16_pipeline_pure :
    Gen.pipelineFunctions ≠ [] ∧
    ∀ m ∈ Gen.pipelineFunctions, m.foreignMutations = 0 ∧ (m.isConstructor = false → m.selfMutations = 0) := by
  decide +kernel

open Delb.Cache in
/-- an lru cache in front of a function is unobservable: whatever was called or cleared before,
    with any `maxsize`, every call answers what the function itself answers (results *and*
    errors; errors are never stored) -/
theorem c16_cache_transparent {K V E : Type} [DecidableEq K] (f : K → Except E V) (maxsize : Nat)
    (ops : List (Op K)) : (run f maxsize [] ops).1 = runUncached f ops :=
  (run_answers f maxsize ops [] (fun _ _ h => by cases h)).1

open Delb.Cache in
/-- the invariant behind it, for every reachable cache: each stored pair is a value of the function -/
theorem c16_cache_sound {K V E : Type} [DecidableEq K] (f : K → Except E V) (maxsize : Nat)
    (ops : List (Op K)) : Sound f (run f maxsize [] ops).2 :=
  (run_answers f maxsize ops [] (fun _ _ h => by cases h)).2

open Delb.Cache in
/-- … and it never holds more than `maxsize` entries -/
theorem c16_cache_bounded {K V E : Type} [DecidableEq K] (f : K → Except E V) (maxsize : Nat)
    (hm : 0 < maxsize) (ops : List (Op K)) : (run f maxsize [] ops).2.length ≤ maxsize :=
  run_bounded f maxsize hm ops [] (Nat.zero_le _)

open Delb.Cache in
/-- instance for the parser: after any history of parses and cache clears, parsing a string gives
    what a fresh parse of that string gives -/
theorem c16_cached_parse_is_fresh (maxsize : Nat) (before : List (Op Str)) (s : Str) :
    ((run parse maxsize [] (before ++ [.call s])).1).getLast? = some (parse s) :=
  Cache.call_is_fresh parse maxsize [] (fun _ _ h => by cases h) before s

/-- non-vacuity: a cache of size 1, a hit, an eviction and an error that is not stored -/
example :
    Delb.Cache.run (fun n : Nat => if n = 3 then (Except.error "three" : Except String Nat) else .ok (n * 2)) 1 []
        [.call 1, .call 1, .call 3, .call 2, .call 1, .clear, .call 2] =
      ([.ok 2, .ok 2, .error "three", .ok 4, .ok 2, .ok 4], [(2, 4)]) := by rfl

end Delb.XPath
