import DelbModel.Model.Filters
import DelbModel.Lemmas.Filters
/-!
# C08 — Observing a tree has no side effects, and default filters stay the caller's

Property theorems only; helper lemmas are in `DelbModel/Lemmas/Filters.lean`.
The premises about the library's functions are decided for the summaries that
`harness/gen_skeleton.py` regenerates from /repo's source on every run.
That observing calls leave tree content and node identities alone is, for a functional model,
true by construction; it is established on the implementation by the exploration (see DESIGN.md).
-/
namespace Delb.Filters

/-- instance for the current source: no function holds an own `altered_default_filters` frame across
    a `yield` -/
theorem c08_source_no_yield_in_frame : noYieldInOwnFrame Gen.filterSkeleton = true := by
  decide +kernel

/-- instance for the current source: the functions whose results must be filter independent do not
    test tag nodes for truthiness (`len` under the ambient filters) outside an own frame -/
theorem c08_source_listed_guarded : listedAreGuarded Gen.filterSkeleton = true := by
  decide +kernel

/-- a balanced segment (a library call, or a generator resumption that holds no own frame when it
    yields) leaves the stack exactly as it found it, whatever the stack is -/
theorem c08_balanced_restores (s : Stack) (seg : List Act) (h : Balanced seg) : run s seg = some s :=
  run_of_balancedFrom seg [] s h

/-- no leak: under every interleaving of library calls and generator resumptions with the client's
    own blocks — iterators suspended, abandoned or closed at any point — the client's view of the
    default filters is what the client itself established -/
theorem c08_callers_view (s : Stack) (sched : List Step) (h : allLibBalanced sched) :
    runSchedule s sched = clientOnly s sched := by
  induction sched generalizing s with
  | nil => rfl
  | cons st rest ih =>
    cases st with
    | lib seg =>
      have hb : Balanced seg := h.1
      simp only [runSchedule, clientOnly, c08_balanced_restores s seg hb]
      exact ih s h.2
    | clientPush f =>
      simp only [runSchedule, clientOnly]
      exact ih (f :: s) h
    | clientPop =>
      cases s with
      | nil => rfl
      | cons x s =>
        simp only [runSchedule, clientOnly]
        exact ih s h

/-- a segment that does hold a frame across a yield is visible to the caller (why the premise matters) -/
theorem c08_unbalanced_leaks : ∃ s seg, ¬ Balanced seg ∧ run s seg ≠ some s := by
  exact ⟨[], [.push 0], nofun, nofun⟩

/-- independence: when every ambient read of a call lies inside an own frame, what it reads (hence
    what it computes) is the same for every ambient stack -/
theorem c08_guarded_independent (s₁ s₂ : Stack) (seg : List Act) (h : Guarded seg) :
    reads s₁ seg = reads s₂ seg :=
  reads_of_guardedFrom seg [] s₁ s₂ h

/-- non-vacuity: the shape of `serialize` (decorated: push, reads, pop) is balanced and guarded -/
example : Balanced [.push 0, .read, .push 1, .read, .pop, .read, .pop] ∧
    Guarded [.push 0, .read, .push 1, .read, .pop, .read, .pop] := by constructor <;> rfl

end Delb.Filters
