import DelbModel.Model.Document
import DelbModel.Lemmas.Document
import DelbModel.Lemmas.Clone
import DelbModel.Props.C02
/-!
# C12 — a saved document is a complete, decodable copy of the document

Model: `Model/Document.lean` (`docPieces` = what `Document.__serialize` writes, `readDoc` = the reading
side, `dropKinds` = the parser options, `setRoot` = the root setter) and `Clone.copyRootSiblings` of
`Model/Clone.lean` (what the root setter does with the siblings of the root).
The byte level (codecs, newline translation by `io.TextIOWrapper`) is modelled in `Model/Codec.lean`
and proved in `Props/C12Codec.lean`; the correspondence check compares that model with Python.
-/
namespace Delb.Doc
open Delb.Ser

def isNewline : DPiece → Bool
  | .newline => true
  | _ => false

def lowerAscii (c : Char) : Char := if 'A' ≤ c ∧ c ≤ 'Z' then Char.ofNat (c.toNat + 32) else c

/-- every prologue / epilogue member is a comment or a processing instruction -/
def WellFormed (d : Document) : Prop := ∀ n ∈ d.prologue ++ d.epilogue, isMisc n = true

/-- the output starts with the XML declaration, and the declaration names the requested encoding
    (in upper case: the same label for codecs and XML, both being case-insensitive) -/
theorem c12_declaration_first (f : Bool) (enc : String) (d : Document) (rs : Str) :
    (docPieces f enc d rs).head? = some (.decl (upper enc)) ∧
    ∃ rest, renderDoc (docPieces f enc d rs)
      = ("<?xml version=\"1.0\" encoding=\"" ++ upper enc ++ "\"?>").toList ++ rest := by
  rw [docPieces_eq]
  exact ⟨rfl, _, rfl⟩

theorem c12_label_same_up_to_case (enc : String) :
    (upper enc).toList.map lowerAscii = enc.toList.map lowerAscii := by
  simp only [upper, String.toList_ofList, List.map_map]
  exact List.map_congr_left (fun c _ => lower_upper c)

/-- complete and in order: apart from separators the pieces are exactly declaration, prologue, root,
    epilogue -/
theorem c12_complete_in_order (f : Bool) (enc : String) (d : Document) (rs : Str) :
    (docPieces f enc d rs).filter (fun p => !isNewline p)
      = [.decl (upper enc)] ++ d.prologue.map .misc ++ [.root rs] ++ d.epilogue.map .misc := by
  rw [docPieces_eq, List.filter_cons_of_pos rfl,
    filter_sep _ _ _ (fun x hx => by rw [sep_newline f x hx]; rfl) (forall_mem_constructs (fun _ => rfl) rfl),
    List.append_assoc, List.append_assoc]
  rfl

/-- separators: none without formatting -/
theorem c12_no_newline_unformatted (enc : String) (d : Document) (rs : Str) :
    ∀ p ∈ docPieces false enc d rs, isNewline p = false := by
  rw [docPieces_eq]
  simp only [Bool.false_eq_true, if_false, List.nil_append, List.flatMap_singleton']
  exact List.forall_mem_cons.2 ⟨rfl, forall_mem_constructs (fun _ => rfl) rfl⟩

/-- separators with formatting: exactly one newline between two neighbouring constructs, none at the
    end: the pieces are the constructs interspersed with newlines -/
theorem c12_newlines_formatted (enc : String) (d : Document) (rs : Str) :
    docPieces true enc d rs
      = ([DPiece.decl (upper enc)] ++ d.prologue.map DPiece.misc ++ [DPiece.root rs] ++ d.epilogue.map DPiece.misc).intersperse DPiece.newline := by
  rw [docPieces_eq]
  simp [intersperse_cons]

set_option linter.unusedVariables false in
/-- reading back gives the same label, prologue, root string and epilogue, for any number of
    comments / PIs and both separator modes -/
theorem c12_read_back (f : Bool) (enc : String) (d : Document) (rs : Str) (hw : WellFormed d) :
    readDoc (docPieces f enc d rs) = some (upper enc, d.prologue, rs, d.epilogue) := by
  rw [docPieces_eq]
  exact readDoc_sep _ _ (sep_newline f) _ _ _

/-- … and with the plain serializer the root string is the rendering of tokens that rebuild the
    original root (C02), so the whole document is recovered -/
theorem c12_document_roundtrip (nsmap : Dict) (hn : NsMapOk nsmap) (enc : String) (d : Document)
    (hw : WellFormed d) (htag : d.root.isTag = true) (hs : Serializable d.root)
    (orders : List (List String)) (ho : ordersValid d.root orders = true) (m : Dict)
    (h : collect nsmap d.root orders = .ok m) :
    ∃ toks, emitRoot m d.root = .ok toks ∧
      readDoc (docPieces false enc d (render toks)) = some (upper enc, d.prologue, render toks, d.epilogue) ∧
      build toks = some (normalize d.root) := by
  obtain ⟨toks, ht, hb⟩ := c02_serialize_roundtrip nsmap hn d.root htag hs orders ho m h
  exact ⟨toks, ht, c12_read_back false enc d (render toks) hw, hb⟩

/-- replacing the root keeps prologue and epilogue (the spec) … -/
theorem c12_set_root_keeps (d : Document) (new : Node) :
    (setRoot d new).prologue = d.prologue ∧ (setRoot d new).epilogue = d.epilogue ∧ (setRoot d new).root = new := by
  exact ⟨rfl, rfl, rfl⟩

/-- … and the mechanism `_copy_root_siblings` (two stacks, nearest sibling first) delivers it -/
theorem c12_copy_root_siblings (prologue epilogue : List Edit.PTree) :
    Clone.copyRootSiblings prologue epilogue = (prologue, epilogue) := by
  simp [Clone.copyRootSiblings, Clone.pushAll_eq, Clone.popAddPrevious_eq, Clone.popAddNext_eq]

/-! ## parser options remove exactly the comments / processing instructions -/

/-- what a node is, without its children -/
inductive Label
  | tag (ns name : String) (attrs : List Attr)
  | text (s : Str)
  | comment (s : Str)
  | pi (target : String) (s : Str)
deriving Repr

mutual
  /-- all nodes of a tree in document order -/
  def labels : Node → List Label
    | .tag ns name a ks => .tag ns name a :: labelsList ks
    | .text s => [.text s]
    | .comment s => [.comment s]
    | .pi t s => [.pi t s]
  def labelsList : List Node → List Label
    | [] => []
    | k :: ks => labels k ++ labelsList ks
end

def keepLabel (comments pis : Bool) : Label → Bool
  | .comment _ => !comments
  | .pi .. => !pis
  | _ => true

mutual
/-- exactly the comments (resp. PIs) go, everything else stays, in order, at every depth
    (`ht` is needed: a bare comment / PI is not removed by `dropKinds` itself, only as a child) -/
theorem c12_drop_exact (comments pis : Bool) (t : Node) (ht : t.isTag = true) :
    labels (dropKinds comments pis t) = (labels t).filter (keepLabel comments pis) :=
  match t, ht with
  | .tag _ _ _ ks, _ => by
    rw [dropKinds, labels, labels, List.filter_cons_of_pos rfl, c12_drop_exact_siblings comments pis ks]
theorem c12_drop_exact_siblings (comments pis : Bool) (ks : List Node) :
    labelsList (dropKindsList comments pis ks) = (labelsList ks).filter (keepLabel comments pis) :=
  match ks with
  | [] => rfl
  | .tag ns name a ks' :: ks => by
    simp only [dropKindsList, labelsList, List.filter_append,
      c12_drop_exact comments pis (.tag ns name a ks') rfl, c12_drop_exact_siblings comments pis ks]
  | .text _ :: ks => by
    simp only [dropKindsList, dropKinds, labelsList, List.filter_append,
      c12_drop_exact_siblings comments pis ks]
    rfl
  | .comment _ :: ks => by
    rw [dropKindsList, labelsList, List.filter_append, ← c12_drop_exact_siblings comments pis ks]
    cases comments <;> rfl
  | .pi _ _ :: ks => by
    rw [dropKindsList, labelsList, List.filter_append, ← c12_drop_exact_siblings comments pis ks]
    cases pis <;> rfl
end

/-- nesting is untouched: with nothing to drop the tree is unchanged -/
theorem c12_drop_nothing (t : Node) : dropKinds false false t = t := by
  exact dropKinds_nothing t

/-- the depth of every remaining node is unchanged: dropping commutes with taking the children of a tag -/
theorem c12_drop_children (comments pis : Bool) (ns name : String) (a : List Attr) (ks : List Node) :
    dropKinds comments pis (.tag ns name a ks) = .tag ns name a (dropKindsList comments pis ks) := by
  rfl

example : WellFormed { prologue := [.comment ['a'], .pi "t" []], root := .tag "" "r" [] [], epilogue := [.comment []] } := by
  unfold WellFormed
  decide +kernel

end Delb.Doc
