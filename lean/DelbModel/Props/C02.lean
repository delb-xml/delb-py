import DelbModel.Model.Serialize
import DelbModel.Lemmas.Roundtrip
import DelbModel.Props.C13
/-!
# C02 — Serialize then parse gives back the same document model

`c02_roundtrip` assumes a prefix map with the `PMapOk` guarantees; that `_collect_prefixes`
always produces such a map is C13 (`c13_collect_ok`), and `c02_serialize_roundtrip` composes the
two.
-/
namespace Delb.Ser

/-- generated-table obligation: `&`, `<`, `>` are escaped in text, additionally `"` in
    attribute values, each by its predefined entity -/
theorem c02_tables :
    Gen.textEscapes = [('&', "&amp;".toList), ('<', "&lt;".toList), ('>', "&gt;".toList)] ∧
    Gen.attrEscapes = [('"', "&quot;".toList), ('&', "&amp;".toList), ('<', "&lt;".toList), ('>', "&gt;".toList)] :=
  ⟨rfl, rfl⟩

/-- escaped text contains no markup-significant character other than the `&` of an entity … -/
theorem c02_escape_text_safe (s : Str) : '<' ∉ escapeText s ∧ '>' ∉ escapeText s :=
  escape_textTable_safe s

theorem c02_escape_attr_safe (s : Str) :
    '<' ∉ escapeAttr s ∧ '>' ∉ escapeAttr s ∧ '"' ∉ escapeAttr s :=
  escape_attrTable_safe s

/-- … and survives: resolving the entities gives the original characters back -/
theorem c02_unescape_text (s : Str) : unescape (escapeText s) = s :=
  unescape_escape_text s

theorem c02_unescape_attr (s : Str) : unescape (escapeAttr s) = s :=
  unescape_escape_attr s

set_option linter.unusedVariables false in
/-- the round trip on the level of markup tokens: for every tree and every prefix map with the
    C13 guarantees, the emitted tokens are rebuilt — resolving every written name against the
    written declarations — into the original tree (adjacent text merged, empty text dropped,
    attributes in written order).

    Of `PMapOk` this uses `injective`, `shape`, `keysNodup` and `xmlPrefix` / `xmlnsPrefix`: the
    two reserved prefixes are never declared, so a foreign namespace written as `<xml:r/>` would
    be read back in the XML namespace and `<xmlns:r/>` could not be resolved at all. -/
theorem c02_roundtrip (nsmap m : Dict) (hn : NsMapOk nsmap) (t : Node)
    (htag : t.isTag = true) (hs : Serializable t) (hm : PMapOk nsmap m t)
    (toks : List Tok)
    (h : emitRoot m t = .ok toks) : build toks = some (normalize t) :=
  build_emitRoot hm.ctx t htag hs toks h

/-- with such a map emitting never fails -/
theorem c02_emit_total (nsmap m : Dict) (t : Node) (hm : PMapOk nsmap m t) :
    ∃ toks, emitRoot m t = .ok toks :=
  emitRoot_total t hm.total

/-- serialize, then read back: for every tree the serializer can write, every accepted caller
    mapping and every iteration order of the namespace sets, what `TagNode.serialize()` emits is
    rebuilt into the original tree (adjacent text merged, empty text dropped) -/
theorem c02_serialize_roundtrip (nsmap : Dict) (hn : NsMapOk nsmap) (root : Node)
    (htag : root.isTag = true) (hs : Serializable root)
    (orders : List (List String)) (ho : ordersValid root orders = true) (m : Dict)
    (h : collect nsmap root orders = .ok m) :
    ∃ toks, emitRoot m root = .ok toks ∧ build toks = some (normalize root) := by
  have hm := c13_collect_ok nsmap hn root orders ho m h
  obtain ⟨toks, ht⟩ := c02_emit_total nsmap m root hm
  exact ⟨toks, ht, c02_roundtrip nsmap m hn root htag hs hm toks ht⟩

example : build [.stag "r".toList [("xmlns".toList, "urn:a".toList), ("xmlns:ns0".toList, "urn:b".toList),
                   ("k".toList, "1".toList), ("ns0:j".toList, "2".toList)] false,
                 .chars "a".toList, .chars "b".toList, .stag "ns0:e".toList [] true, .etag "r".toList]
    = some (.tag "urn:a" "r" [⟨"urn:a", "k", "1".toList⟩, ⟨"urn:b", "j", "2".toList⟩]
              [.text "ab".toList, .tag "urn:b" "e" [] []]) := by
  repeat rw [String.toList_ofList]
  rfl

/-! ## totality

`c02_serialize_roundtrip` assumes that prefix collection returned a map.  With the size bound of
`c13_collect_total` (distinct namespaces of the tree plus entries of the caller's mapping at most
`65536 + 2`) it always does, and so the whole `serialize` call succeeds. -/

/-- **`TagNode.serialize()` yields an output**: for every tree, every accepted caller mapping, every
    iteration order of the namespace sets, under the size bound of `c13_collect_total`.  (Needs neither
    `Serializable` nor a tag node as root: the serializer also writes what cannot be read back.) -/
theorem c02_serialize_total (nsmap : Dict) (hn : NsMapOk nsmap) (root : Node)
    (orders : List (List String)) (ho : ordersValid root orders = true)
    (hsmall : (dedup (treeNamespaces root)).length + nsmap.length ≤ 65538) :
    ∃ s, serialize nsmap root orders = .ok s := by
  obtain ⟨m, hm, hok⟩ := c13_collect_total_ok nsmap hn root orders ho hsmall
  obtain ⟨toks, ht⟩ := c02_emit_total nsmap m root hok
  exact ⟨render toks, by simp only [serialize, hm, ht]⟩

/-- **serialize, then read back — without assuming a successful run**: for every tree the serializer
    can write, every accepted caller mapping and every iteration order of the namespace sets (size
    bound as above), `serialize` returns the rendering of tokens that are rebuilt into the original
    tree (adjacent text merged, empty text dropped) -/
theorem c02_serialize_roundtrip_total (nsmap : Dict) (hn : NsMapOk nsmap) (root : Node)
    (htag : root.isTag = true) (hs : Serializable root)
    (orders : List (List String)) (ho : ordersValid root orders = true)
    (hsmall : (dedup (treeNamespaces root)).length + nsmap.length ≤ 65538) :
    ∃ toks, serialize nsmap root orders = .ok (render toks) ∧ build toks = some (normalize root) := by
  obtain ⟨m, hm⟩ := c13_collect_total nsmap hn root orders ho hsmall
  obtain ⟨toks, ht, hb⟩ := c02_serialize_roundtrip nsmap hn root htag hs orders ho m hm
  exact ⟨toks, by simp only [serialize, hm, ht], hb⟩

/-- non-vacuity: the hypotheses hold for a tree with three namespaces and a caller mapping … -/
example : ∃ toks, serialize [("xml", Gen.xmlNamespace), ("xmlns", Gen.xmlnsNamespace), ("b", "urn:b")]
      (.tag "urn:a" "r" [⟨"urn:c", "k", "1".toList⟩] [.text "x".toList, .tag "urn:b" "e" [] []])
      [["urn:c", "urn:a"], ["urn:b"]] = .ok (render toks) ∧
    build toks = some (normalize
      (.tag "urn:a" "r" [⟨"urn:c", "k", "1".toList⟩] [.text "x".toList, .tag "urn:b" "e" [] []])) :=
  c02_serialize_roundtrip_total _
    ⟨by decide +kernel, by decide +kernel, by decide +kernel, by decide +kernel⟩ _ rfl
    (by simp only [Serializable, SerializableList]; decide +kernel) _ (by decide +kernel) (by decide +kernel)

/-- … and this is what comes out -/
example : serialize [("xml", Gen.xmlNamespace), ("xmlns", Gen.xmlnsNamespace), ("b", "urn:b")]
      (.tag "urn:a" "r" [⟨"urn:c", "k", "1".toList⟩] [.text "x".toList, .tag "urn:b" "e" [] []])
      [["urn:c", "urn:a"], ["urn:b"]]
    = .ok "<r xmlns=\"urn:a\" xmlns:b=\"urn:b\" xmlns:ns0=\"urn:c\" ns0:k=\"1\">x<b:e/></r>".toList := by
  rw [String.toList_ofList]
  exact eq_ok_of_toOption (by decide +kernel)

end Delb.Ser
