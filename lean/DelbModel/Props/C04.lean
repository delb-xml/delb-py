import DelbModel.Model.Gc
import DelbModel.Lemmas.Gc
/-!
# C04 — garbage collection timing never changes what a program observes

Model: `Model/Gc.lean` — one run of `_WrapperCache.__gc_callback__` over the cache, with reference
counts split into the program's references and the structural ones.  The theorems are about every
cache state (any number of wrappers, any chains of appended text nodes, any reference pattern).
What the model cannot exhibit is *when* CPython runs a collection and which temporaries a library
frame holds at that moment (they count as references and only keep more wrappers); that part is
explored on the implementation by the correspondence check.
-/
namespace Delb.Gc

/-- generated-table obligation: the thresholds in the source are the structural reference counts
    listed in `Model/Gc.lean`, at every comparison of each kind (however many sites the source has),
    no other `getrefcount` comparison exists, and the callback is guarded by phase and lock -/
theorem c04_thresholds :
    (Gen.gcWrapperBases ≠ [] ∧ ∀ x ∈ Gen.gcWrapperBases, x = 4) ∧
    (Gen.gcDocumentIdles ≠ [] ∧ ∀ x ∈ Gen.gcDocumentIdles, x = 4) ∧
    (Gen.gcAppendedBases ≠ [] ∧ ∀ x ∈ Gen.gcAppendedBases, x = 3) ∧
    (Gen.gcHeadBases ≠ [] ∧ ∀ x ∈ Gen.gcHeadBases, x = 3) ∧ Gen.gcOtherComparisons = [] ∧
    Gen.gcGuard = "phase != 'stop' or self.locks" := by
  refine ⟨?_, ?_, ?_, ?_, rfl, rfl⟩ <;> decide +kernel

/-- the thresholds the callback uses: the least literal of each kind in the table, which by
    `c04_thresholds` is the literal at every site of that kind -/
theorem c04_threshold_values :
    Gen.gcWrapperBase = 4 ∧ Gen.gcDocumentIdle = 4 ∧ Gen.gcAppendedBase = 3 ∧ Gen.gcHeadBase = 3 := by
  decide +kernel

/-- the callback's tests see exactly the program's references: a wrapper is kept iff the program
    references the node, its document, or any text node at its data / tail position -/
theorem c04_keeps_iff_referenced (w : Wrapper) : keeps w = anyReferenced w := by
  obtain ⟨hw, hd, ha, hh⟩ := c04_threshold_values
  exact keeps_eq_anyReferenced hw hd ha hh w

/-- while a lock is held (`with _wrapper_cache:`) a collection changes nothing -/
theorem c04_locked_noop (s : State) (h : s.locks > 0) : gcStep s = (s, []) := by
  rw [gcStep, if_pos h]

/-- translator obligation: the lock is a counter - `__init__` starts it at 0, `__enter__` adds one,
    `__exit__` takes one off (read from /repo's source on every run) -/
theorem c04_lock_is_counter :
    Gen.gcLockInit = some 0 ∧ Gen.gcLockEnterDelta = some 1 ∧ Gen.gcLockExitDelta = some (-1) := by
  decide

/-- translator obligation: no generator of the library yields inside a `with _wrapper_cache:`
    block - the lock is only ever held for the duration of a call, never while an iterator is
    suspended (then released nodes would not be evicted: "no cached node objects left behind") -/
theorem c04_lock_never_held_across_yield :
    Gen.gcLockHeldAcrossYield = [] ∧ 0 < Gen.gcLockBlocks := by
  decide

/-- … so for every properly nested use of `with _wrapper_cache:` - any depth, any order - the
    counter equals the number of blocks that are open: collections stay switched off until the
    OUTERMOST block is left, and are on again afterwards -/
theorem c04_lock_counts_open_blocks (ops : List LockOp) (k : Nat) (h : openBlocks 0 ops = some k) :
    lockCount 1 (-1) 0 ops = (k : Int) := by
  simpa using lockCount_openBlocks ops 0 k h

/-- a lock that only remembers "locked / not locked" (enter sets 1, exit sets 0 - modelled here as
    the counter clamped by an exit to 0) would re-enable collections inside an outer block: with a
    counter the inner exit of `enter enter exit` leaves 1, not 0 -/
example : lockCount 1 (-1) 0 [.enter, .enter, .exit] = 1 ∧ openBlocks 0 [.enter, .enter, .exit] = some 1 := by
  decide +kernel

/-- every referenced node object stays the cached object for its element, with its chains of text
    nodes untouched (so navigation returns the very same objects) -/
theorem c04_referenced_stay (s : State) (w : Wrapper) (hw : w ∈ s.cache) (h : anyReferenced w = true) :
    w ∈ (gcStep s).1.cache := by
  exact mem_gcStep_cache.mpr ⟨hw, Or.inr (c04_keeps_iff_referenced w ▸ h)⟩

/-- nothing is added or reordered: what stays is a sublist of the cache -/
theorem c04_kept_sublist (s : State) : List.Sublist (gcStep s).1.cache s.cache := by
  unfold gcStep
  split
  · exact List.Sublist.refl _
  · exact List.filter_sublist

/-- a wrapper disappears only when the program references neither the node, nor its document, nor
    any of its text nodes — adjacent text nodes are coalesced only then -/
theorem c04_evicted_unreferenced (s : State) (w : Wrapper) (hw : w ∈ s.cache)
    (h : w ∉ (gcStep s).1.cache) : anyReferenced w = false := by
  rw [← c04_keeps_iff_referenced]
  exact (Bool.not_eq_true _).mp fun hk => h (mem_gcStep_cache.mpr ⟨hw, Or.inr hk⟩)

/-- the content of every tree stays the same: an evicted wrapper leaves its element with exactly the
    text its text nodes showed, at both positions -/
theorem c04_content_stable (s : State) (w : Wrapper) (hw : w ∈ s.cache) :
    w ∈ (gcStep s).1.cache ∨
    ∃ e ∈ (gcStep s).2, e.elem = w.elem ∧ e.text = slotText w.data ∧ e.tail = slotText w.tail := by
  by_cases h : s.locks > 0 ∨ keeps w = true
  · exact Or.inl (mem_gcStep_cache.mpr ⟨hw, h⟩)
  · obtain ⟨hl, hk⟩ := not_or.mp h
    exact Or.inr ⟨evict w, mem_gcStep_evicted.mpr ⟨hl, w, hw, (Bool.not_eq_true _).mp hk, rfl⟩, rfl, rfl, rfl⟩

/-- the folded elements are exactly those of evicted, unreferenced wrappers -/
theorem c04_coalesce_only_unreferenced (s : State) (e : Element) (he : e ∈ (gcStep s).2) :
    ∃ w ∈ s.cache, e = evict w ∧ anyReferenced w = false ∧ w ∉ (gcStep s).1.cache := by
  obtain ⟨hl, w, hw, hk, rfl⟩ := mem_gcStep_evicted.mp he
  refine ⟨w, hw, rfl, c04_keeps_iff_referenced w ▸ hk, fun hm => ?_⟩
  rcases (mem_gcStep_cache.mp hm).2 with h | h
  · exact hl h
  · exact Bool.noConfusion (hk.symm.trans h)

/-- once the program has dropped all its references, a collection leaves no cached node behind -/
theorem c04_nothing_left (s : State) (hl : s.locks = 0) (h : ∀ w ∈ s.cache, anyReferenced w = false) :
    (gcStep s).1.cache = [] := by
  refine List.eq_nil_iff_forall_not_mem.mpr fun w hm => ?_
  obtain ⟨hw, h' | h'⟩ := mem_gcStep_cache.mp hm
  · omega
  · exact Bool.noConfusion ((h w hw).symm.trans (c04_keeps_iff_referenced w ▸ h'))

/-- a second collection right after the first finds nothing to do -/
theorem c04_idempotent (s : State) : gcStep (gcStep s).1 = ((gcStep s).1, []) := by
  by_cases hl : s.locks > 0
  · rw [c04_locked_noop s hl]
    exact c04_locked_noop s hl
  · simp [gcStep, hl, List.filter_filter]

/-! non-vacuity: a cache with a referenced chained text node, a document root held only through its
    document, and an unreferenced comment -/
def exampleState : State :=
  { locks := 0,
    cache := [
      { elem := 0, isTag := true, userRefs := 0, docRefs := some 1,
        data := { headRefs := 0, stored := "a".toList, appended := [] },
        tail := { headRefs := 0, stored := [], appended := [] } },
      { elem := 1, isTag := true, userRefs := 0, docRefs := none,
        data := { headRefs := 0, stored := "x".toList, appended := [⟨0, "y".toList⟩, ⟨1, "z".toList⟩] },
        tail := { headRefs := 0, stored := [], appended := [] } },
      { elem := 2, isTag := false, userRefs := 0, docRefs := none,
        data := { headRefs := 0, stored := [], appended := [] },
        tail := { headRefs := 0, stored := "t".toList, appended := [⟨0, "u".toList⟩] } } ] }

example : ((gcStep exampleState).1.cache.map (·.elem)) = [0, 1] ∧
    (gcStep exampleState).2 = [{ elem := 2, text := [], tail := "tu".toList }] := by
  decide +kernel

end Delb.Gc
