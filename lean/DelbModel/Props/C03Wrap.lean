import DelbModel.Model.Wrapping
import DelbModel.Lemmas.WrapTransparent
import DelbModel.Lemmas.WrapFuel
import DelbModel.Props.C03
/-!
# C03, line widths ≥ 1 — the text-wrapping serializer is whitespace-transparent

Model: `Model/Wrapping.lean` (`TextWrappingSerializer`, byte-identical to the implementation on every
explored case).  Same statement as `c03_pretty_transparent` for `wrapRoot`.

## Findings

1. (implementation and model agree; commit d23109d of the implementation) `_serialize_text`,
   `_serialize_text_over_lines` and `_consolidate_text_lines` test `self.writer.offset == 0` for "at the beginning
   of a line", in four places.  The test `self._line_offset == 0` in their place makes the statement false:
   `writer.offset == level * len(indentation)` also happens in the middle of a line after markup that contains a
   newline.  With it the tree `<r><!--a\n-->foo</r>`, indentation `"   "` (3 spaces), width 80 is written
   `<r>\n   <!--a\n-->   foo\n</r>`, read back and reduced: text `" foo"` ≠ `"foo"`; likewise
   `<r><x xml:space="preserve">abc\n</x>foo</r>` with indentation of 4 spaces.

2. (OPEN in the implementation) The statement is FALSE for indentation strings that contain a newline.
   Counterexample: tree `<r>abcde fghij <b/></r>` (text `"abcde fghij "`, then the empty
   element `b`), indentation `"   \n"` (3 spaces and a newline), width 5, attribute alignment off:
   output `<r>\n   \nabcde\n   \nfghij<b/>\n</r>`; read back and reduced the text is `"abcde fghij"`: its trailing
   space is lost.  `_wrap_text` swallows the trailing space of a text whose last line is full and relies on
   `_available_space == 0` to force a line break before the next node; with a newline inside the indentation
   `writer.offset` (characters since the last newline) minus `level * len(indentation)` under-counts the line.
   Hence the hypothesis `'\n' ∉ o.indent` of `c03_wrapped_transparent_partial`.

```
-- FALSE as stated (finding 2):
theorem c03_wrapped_transparent (o : Opts) (ho : IndentOk o) (width : Nat) (hw : 1 ≤ width)
    (nsmap m : Dict) (hn : NsMapOk nsmap) (t : Node)
    (htag : t.isTag = true) (hs : Serializable t) (hm : PMapOk nsmap m t) (hr : Reduced t)
    (ps : List Piece) (h : wrapRoot o width m t = .ok ps) :
    ∃ u, build (eraseAll ps) = some u ∧ reduceSpec pyWs u = normalize t
```
-/
namespace Delb.Wrapping
open Delb.Ser Delb.WS Delb.Pretty

set_option linter.unusedVariables false in
/-- **whitespace transparency, width ≥ 1**, for every indentation string without a newline: for every reduced
    tree, every such whitespace indentation, every width ≥ 1, attribute alignment on or off, and every prefix
    map with the C13 guarantees, reading the wrapped output back and reducing its whitespace gives the
    original tree.  (No assumption on the content of comments, processing instructions, attribute values or
    preserved text.) -/
theorem c03_wrapped_transparent_partial (o : Opts) (ho : IndentOk o) (hnl : '\n' ∉ o.indent)
    (width : Nat) (hw : 1 ≤ width)
    (nsmap m : Dict) (hn : NsMapOk nsmap) (t : Node)
    (htag : t.isTag = true) (hs : Serializable t) (hm : PMapOk nsmap m t) (hr : Reduced t)
    (ps : List Piece) (h : wrapRoot o width m t = .ok ps) :
    ∃ u, build (eraseAll ps) = some u ∧ reduceSpec pyWs u = normalize t :=
  wrapped_transparent o ho hnl width hw m hm.ctx t htag hs hr ps h

instance (o : Opts) : Decidable ('\n' ∉ o.indent) := inferInstance

/-- indentation and line breaks consist of whitespace only -/
theorem c03_wrapped_layout_is_whitespace (o : Opts) (ho : IndentOk o) (width : Nat) (m : Dict) (t : Node)
    (ps : List Piece) (h : wrapRoot o width m t = .ok ps) :
    ∀ s, Piece.layout s ∈ ps → ∀ c ∈ s, pyWs c = true :=
  wrapRoot_layout o ho width m t ps h

/-- no non-whitespace character is altered (as for width 0) -/
theorem c03_wrapped_nonws_unaltered (o : Opts) (ho : IndentOk o) (hnl : '\n' ∉ o.indent)
    (width : Nat) (hw : 1 ≤ width)
    (nsmap m : Dict) (hn : NsMapOk nsmap) (t : Node)
    (htag : t.isTag = true) (hs : Serializable t) (hm : PMapOk nsmap m t) (hr : Reduced t)
    (ps : List Piece) (h : wrapRoot o width m t = .ok ps) :
    ∃ u, build (eraseAll ps) = some u ∧ nonWs pyWs (fullText u) = nonWs pyWs (fullText t) := by
  obtain ⟨u, hu, hred⟩ := c03_wrapped_transparent_partial o ho hnl width hw nsmap m hn t htag hs hm hr ps h
  refine ⟨u, hu, ?_⟩
  rw [← c07_nonws_preserved pyWs pyWs_space u, hred, fullText_normalize.1]

/-! non-vacuity: the serializer succeeds on a reduced mixed-content tree, with wrapping -/
example : ∃ ps, wrapRoot ⟨"  ".toList, false⟩ 12 [("", "")]
    (.tag "" "p" [] [.text "Hold ".toList, .tag "" "hi" [] [.text "the".toList], .text " thieves, now!".toList]) = .ok ps :=
  exists_ok_of_isOk (by decide +kernel)

/-! ## totality

The model recurses on an explicit budget (`fuelFor root = 8 * size root + 32`, also used for every
`_required_space` look-ahead) and reports `Err.invalidCodePath "fuel"` when it is exhausted; the theorems
above assume a run that ended in `.ok`.  The following theorems say that such a run always exists.
-/

/-- **the recursion budget suffices**: for every tree, all format options, every width and every prefix map
    the run of the text-wrapping serializer does not end with an exhausted budget. -/
theorem c03_wrapped_fuel_suffices (o : Opts) (width : Nat) (m : Dict) (root : Node) :
    wrapRoot o width m root ≠ .error (.invalidCodePath "fuel") :=
  wrapRoot_noFuel o width m root

/-- which budgets suffice: `_required_space` needs `3 * size root + 1` (it walks along `_fetch_following`, at
    most once over every node that follows in document order, with up to three nested calls per node), the
    serializer proper `6 * size root - 2` (five nested calls per level, one per preceding sibling, one for the
    second attempt after a line break) — both below `fuelFor root`. -/
theorem c03_wrapped_budget (e : Env) (hreq : 3 * size e.root + 1 ≤ e.fuel) (fuel : Nat)
    (hfuel : 6 * size e.root ≤ fuel + 2) (ad : List (Str × Str)) (st : St) :
    serializeTag e fuel [] ad st ≠ .error (.invalidCodePath "fuel") :=
  ((machine_run (B := False) (L := False) e (fun _ => hreq) (fun b => b.elim) (fun l => l.elim) fuel).2.1
    [] e.root ad st rfl (fun _ => hfuel) (fun b => b.elim) (fun l => l.elim)).noFuel

/-- `_required_space` alone, for any node and any limit -/
theorem c03_wrapped_required_space_budget (e : Env) (fuel : Nat) (hfuel : 3 * size e.root + 1 ≤ fuel)
    (p : Path) (upTo : Int) : requiredSpace e fuel p upTo ≠ .error (.invalidCodePath "fuel") :=
  ((requiredSpace_run (B := False) e (fun b => b.elim) fuel).1 p upTo
    (fun _ => by have := rest_le e.root p; omega) (fun b => b.elim)).noFuel

/-- **totality**: for every tag node, all format options, every width and every prefix map that has a prefix
    for each namespace of the tree, the text-wrapping serializer yields an output (no assertion fails, no
    `IndexError`, `StopIteration` or `KeyError` is raised, the budget is not exhausted).  No assumption on
    the content of the tree: it need not be whitespace-reduced, text nodes may be empty or adjacent. -/
theorem c03_wrapped_total_of_prefixes (o : Opts) (width : Nat) (m : Dict) (t : Node) (htag : t.isTag = true)
    (hm : ∀ ns ∈ treeNamespaces t, (dget m ns).isSome) : ∃ out, wrapRoot o width m t = .ok out :=
  wrapRoot_total o width m t htag hm

set_option linter.unusedVariables false in
/-- totality under the hypotheses of `c03_wrapped_transparent_partial` (of `PMapOk` only `total` is used) -/
theorem c03_wrapped_total (o : Opts) (width : Nat) (nsmap m : Dict) (t : Node) (htag : t.isTag = true)
    (hm : PMapOk nsmap m t) : ∃ out, wrapRoot o width m t = .ok out :=
  wrapRoot_total o width m t htag hm.total

/-- the whole call `serialize(format_options=FormatOptions(width ≥ 1, …))`, collecting the prefixes included,
    does not exhaust the budget … -/
theorem c03_serialize_wrapped_fuel_suffices (o : Opts) (width : Nat) (hw : 1 ≤ width) (nsmap : Dict)
    (root : Node) (orders : List (List String)) :
    serializeWrapped o width nsmap root orders ≠ .error (.invalidCodePath "fuel") :=
  serializeWrapped_noFuel o width hw nsmap root orders

/-- … and yields an output once the prefixes are collected (C13: that map covers the tree) -/
theorem c03_serialize_wrapped_total (o : Opts) (width : Nat) (hw : 1 ≤ width) (nsmap : Dict)
    (hn : NsMapOk nsmap) (root : Node) (htag : root.isTag = true)
    (orders : List (List String)) (ho : ordersValid root orders = true) (m : Dict)
    (h : collect nsmap root orders = .ok m) :
    ∃ out, serializeWrapped o width nsmap root orders = .ok out := by
  have hm := c13_collect_ok nsmap hn root orders ho m h
  obtain ⟨out, hout⟩ := c03_wrapped_total o width nsmap m root htag hm
  refine ⟨out, ?_⟩
  have h0 : (width == 0) = false := by simp; omega
  simp [serializeWrapped, h, h0, hout]

/-- transparency without the assumption of a successful run -/
theorem c03_wrapped_transparent_total (o : Opts) (ho : IndentOk o) (hnl : '\n' ∉ o.indent)
    (width : Nat) (hw : 1 ≤ width)
    (nsmap m : Dict) (hn : NsMapOk nsmap) (t : Node)
    (htag : t.isTag = true) (hs : Serializable t) (hm : PMapOk nsmap m t) (hr : Reduced t) :
    ∃ ps u, wrapRoot o width m t = .ok ps ∧ build (eraseAll ps) = some u ∧ reduceSpec pyWs u = normalize t := by
  obtain ⟨ps, hps⟩ := c03_wrapped_total o width nsmap m t htag hm
  obtain ⟨u, hu⟩ := c03_wrapped_transparent_partial o ho hnl width hw nsmap m hn t htag hs hm hr ps hps
  exact ⟨ps, u, hps, hu⟩

/-! non-vacuity: the model evaluated on a small tree yields an output, the text wrapped over two lines (`<p>\n ab\n cd\n</p>`),
    and the hypothesis of the totality theorem holds for the tree of the example above -/
example : wrapRoot ⟨" ".toList, false⟩ 3 [("", "")] (.tag "" "p" [] [.text "ab cd".toList]) =
    .ok [.stag "p".toList [] [] false, nl, .layout " ".toList, .text "ab".toList, nl,
         .layout " ".toList, .text "cd".toList, nl, .etag "p".toList] := by rfl

example : ∃ ps, wrapRoot ⟨"  ".toList, false⟩ 12 [("", "")]
    (.tag "" "p" [] [.text "Hold ".toList, .tag "" "hi" [] [.text "the".toList], .text " thieves, now!".toList]) = .ok ps :=
  c03_wrapped_total_of_prefixes _ _ _ _ rfl (by decide)

/-! ## totality of the whole call

`c03_serialize_wrapped_total` assumes that prefix collection returned a map; under the size bound of
`c13_collect_total` (distinct namespaces of the tree plus entries of the caller's mapping at most
`65536 + 2`) it always does. -/

/-- **`serialize(format_options=…)` yields an output**, for every width (`0`: the pretty serializer),
    every tag node, all format options, every accepted caller mapping and every iteration order of the
    namespace sets -/
theorem c03_serialize_wrapped_total' (o : Opts) (width : Nat) (nsmap : Dict)
    (hn : NsMapOk nsmap) (root : Node) (htag : root.isTag = true)
    (orders : List (List String)) (ho : ordersValid root orders = true)
    (hsmall : (Ser.dedup (treeNamespaces root)).length + nsmap.length ≤ 65538) :
    ∃ out, serializeWrapped o width nsmap root orders = .ok out := by
  obtain ⟨m, hm, hok⟩ := c13_collect_total_ok nsmap hn root orders ho hsmall
  by_cases h0 : width = 0
  · subst h0
    obtain ⟨out, hout⟩ := prettyRoot_total o m root htag hok.total
    exact ⟨out, by simp [serializeWrapped, hm, hout]⟩
  · exact c03_serialize_wrapped_total o width (by omega) nsmap hn root htag orders ho m hm

/-! non-vacuity: two namespaces, the text wrapped -/
example : ∃ out, serializeWrapped ⟨"  ".toList, false⟩ 12
    [("xml", Gen.xmlNamespace), ("xmlns", Gen.xmlnsNamespace)]
    (.tag "urn:a" "p" [] [.text "Hold ".toList, .tag "urn:b" "hi" [] [.text "the".toList], .text " thieves, now!".toList])
    [["urn:a"], ["urn:b"]] = .ok out :=
  c03_serialize_wrapped_total' _ _ _ ⟨by decide +kernel, by decide +kernel, by decide +kernel, by decide +kernel⟩ _ rfl _ (by decide +kernel)
    (by decide +kernel)

end Delb.Wrapping
