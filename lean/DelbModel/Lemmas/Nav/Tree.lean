import DelbModel.Model.Nav
import DelbModel.Lemmas.Edit
/-!
# The tree walks over plain trees against `preorder`
-/
namespace Delb.Nav
open Delb.Edit

@[simp] theorem preorderList_nil : preorderList [] = [] := by simp [preorderList]
@[simp] theorem preorderList_cons (k : PTree) (ks : List PTree) :
    preorderList (k :: ks) = preorder k ++ preorderList ks := by simp [preorderList]

theorem preorderList_append (a b : List PTree) :
    preorderList (a ++ b) = preorderList a ++ preorderList b := by
  induction a with
  | nil => simp
  | cons x a ih => simp [ih]

theorem preorder_eq (t : PTree) : preorder t = t :: preorderList t.kids := by
  cases t <;> simp [preorder, PTree.kids]

@[simp] theorem sizeList_nil : sizeList [] = 0 := by simp [sizeList]
@[simp] theorem sizeList_cons (k : PTree) (ks : List PTree) :
    sizeList (k :: ks) = size k + sizeList ks := by simp [sizeList]

theorem sizeList_append (a b : List PTree) : sizeList (a ++ b) = sizeList a + sizeList b := by
  induction a with
  | nil => simp
  | cons x a ih => simp [ih]; omega

theorem size_eq (t : PTree) : size t = 1 + sizeList t.kids := by
  cases t <;> simp [size, PTree.kids]

theorem size_pos (t : PTree) : 0 < size t := by rw [size_eq]; omega

theorem descLoop_spec (fuel : Nat) (cand : List PTree) (stack : List (List PTree))
    (hf : 2 * sizeList cand + 2 * (stack.map sizeList).sum + stack.length ≤ fuel) :
    descLoop fuel cand stack = preorderList cand ++ stack.flatMap preorderList := by
  induction fuel generalizing cand stack with
  | zero =>
    cases cand with
    | cons n rest => have := size_pos n; simp at hf; omega
    | nil =>
      cases stack with
      | nil => rfl
      | cons s st => simp at hf
  | succ fuel ih =>
    cases cand with
    | nil =>
      cases stack with
      | nil => simp [descLoop]
      | cons s stack =>
        simp only [descLoop]
        rw [ih s stack (by simp at hf; omega)]
        simp
    | cons n rest =>
      cases n with
      | tag i ns nm a ks =>
        simp only [descLoop]
        rw [ih ks (rest :: stack) (by simp [size] at hf ⊢; omega)]
        simp [preorder]
      | _ =>
        simp only [descLoop]
        rw [ih rest stack (by simp [size] at hf ⊢; omega)]
        simp [preorder]

theorem descendants_eq (t : PTree) : descendants t = preorderList t.kids := by
  unfold descendants
  rw [descLoop_spec _ _ _ (by have := size_eq t; simp; omega)]
  simp

mutual
  theorem fullText_eq : (t : PTree) → fullText t = (preorder t).flatMap textContent
    | .tag i ns n a ks => by
      simp only [fullText, preorder, List.flatMap_cons, textContent, List.nil_append]
      exact fullTextList_eq ks
    | .text i s => by simp [fullText, preorder, textContent]
    | .comment i s => by simp [fullText, preorder, textContent]
    | .pi i t s => by simp [fullText, preorder, textContent]
  theorem fullTextList_eq : (ks : List PTree) → fullTextList ks = (preorderList ks).flatMap textContent
    | [] => by simp [fullTextList]
    | k :: ks => by
      simp only [fullTextList, preorderList_cons, List.flatMap_append]
      rw [fullText_eq k, fullTextList_eq ks]
end

theorem lastDescendant_spec (fuel : Nat) (t : PTree) (hf : size t ≤ fuel) :
    lastDescendant fuel t = (preorderList t.kids).getLast? := by
  induction fuel generalizing t with
  | zero => have := size_pos t; omega
  | succ fuel ih =>
    rw [lastDescendant]
    rcases List.eq_nil_or_concat t.kids with hk | ⟨init, l, hk⟩
    · rw [hk]; rfl
    · have hs : size l ≤ fuel := by
        have := size_eq t
        rw [hk, List.concat_eq_append, sizeList_append, sizeList_cons] at this
        omega
      -- the document order of the children ends with the subtree of the last child `l`
      rw [hk, List.concat_eq_append, List.getLast?_concat, preorderList_append, preorderList_cons, preorderList_nil,
        List.append_nil, preorder_eq l, List.getLast?_append, List.getLast?_cons, Option.some_or, ← ih l hs]
      dsimp only
      cases lastDescendant fuel l <;> rfl

mutual
  theorem postorder_perm : (t : PTree) → (postorder t).Perm (preorder t)
    | .tag i ns n a ks => by
      simp only [postorder, preorder]
      have := postorderList_perm ks
      exact (List.perm_append_comm).trans (by simpa using this)
    | .text i s => by simp [postorder, preorder]
    | .comment i s => by simp [postorder, preorder]
    | .pi i t s => by simp [postorder, preorder]
  theorem postorderList_perm : (ks : List PTree) → (postorderList ks).Perm (preorderList ks)
    | [] => by simp [postorderList]
    | k :: ks => by
      simp only [postorderList, preorderList_cons]
      exact (postorder_perm k).append (postorderList_perm ks)
end

theorem bfLoop_perm (fuel : Nat) (queue : List PTree) (hf : sizeList queue ≤ fuel) :
    (bfLoop fuel queue).Perm (preorderList queue) := by
  induction fuel generalizing queue with
  | zero =>
    cases queue with
    | nil => simp [bfLoop]
    | cons n q => have := size_pos n; simp at hf; omega
  | succ fuel ih =>
    cases queue with
    | nil => simp [bfLoop]
    | cons n q =>
      simp only [bfLoop, preorderList_cons]
      rw [preorder_eq n]
      have h := ih (q ++ n.kids) (by
        have := size_eq n
        rw [sizeList_append]; simp at hf; omega)
      rw [preorderList_append] at h
      exact (h.trans List.perm_append_comm).cons n

theorem traverseBF_perm (t : PTree) : (traverseBF t).Perm (preorder t) := by
  unfold traverseBF
  rw [preorder_eq t]
  exact (bfLoop_perm _ _ (by have := size_eq t; omega)).cons t

end Delb.Nav
