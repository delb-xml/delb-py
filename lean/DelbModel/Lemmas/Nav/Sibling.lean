import DelbModel.Model.Nav
import DelbModel.Lemmas.Edit
/-!
# Walking the children on the slot/chain encoding
-/
namespace Delb.Nav
open Delb.Edit

theorem tailOf_length_of_ge (kids : List (El × Chain)) (k : Nat) (h : kids.length ≤ k) :
    tailOf kids k = [] := by
  simp [tailOf, List.getElem?_eq_none h]

theorem locAt_adjacent {data : Chain} {kids : List (El × Chain)} {i : Nat} {l l' : Loc}
    (h : LocAt data kids i l) (h' : LocAt data kids (i + 1) l') :
    nextLoc data kids l = some l' ∧ prevLoc data kids l' = some l := by
  constructor
  · cases hn : nextLoc data kids l with
    | none => have := h.next_none hn; have := h'.lt; omega
    | some l'' => rw [(h.next_some hn).unique h']
  · cases hp : prevLoc data kids l' with
    | none => exact absurd (h'.prev_none hp) (Nat.succ_ne_zero _)
    | some l'' =>
      obtain ⟨i', hi, h''⟩ := h'.prev_some hp
      rw [← Nat.succ.inj hi] at h''
      rw [h''.unique h]

theorem walkFrom_none (data : Chain) (kids : List (El × Chain)) (fuel : Nat) :
    walkFrom data kids fuel none = [] := by
  cases fuel <;> rfl

theorem walkFrom_spec (data : Chain) (kids : List (El × Chain)) (fuel i : Nat) (l : Loc)
    (h : LocAt data kids i l) (hf : (absChain data ++ absKids kids).length - i ≤ fuel) :
    (walkFrom data kids fuel (some l)).filterMap (locNode data kids) = (absChain data ++ absKids kids).drop i ∧
    (walkFrom data kids fuel (some l)).map (locIndex data kids) =
        List.range' i ((absChain data ++ absKids kids).length - i) := by
  induction fuel generalizing i l with
  | zero => have := h.lt; omega
  | succ fuel ih =>
    have hlt := h.lt
    have hnode : locNode data kids l = some (absChain data ++ absKids kids)[i] := by
      rw [← h.get, List.getElem?_eq_getElem hlt]
    simp only [walkFrom, List.filterMap_cons, hnode, List.map_cons, h.index_valid.1]
    rw [List.drop_eq_getElem_cons hlt,
      show (absChain data ++ absKids kids).length - i = (absChain data ++ absKids kids).length - (i + 1) + 1 by omega,
      List.range'_succ]
    cases hnl : nextLoc data kids l with
    | none =>
      have hn := h.next_none hnl
      rw [walkFrom_none, List.drop_eq_nil_of_le (Nat.le_of_eq hn.symm), ← hn, Nat.sub_self]
      exact ⟨rfl, rfl⟩
    | some l' =>
      obtain ⟨ih1, ih2⟩ := ih (i + 1) l' (h.next_some hnl) (by omega)
      rw [ih1, ih2]
      exact ⟨rfl, rfl⟩

theorem firstLoc_spec (data : Chain) (kids : List (El × Chain)) :
    (∀ l, firstLoc data kids = some l → LocAt data kids 0 l) ∧
    (firstLoc data kids = none → absChain data ++ absKids kids = []) := by
  cases data with
  | cons d ds => exact ⟨fun l e => (by cases e; exact ⟨rfl, by simp⟩), fun e => nomatch e⟩
  | nil =>
    cases kids with
    | nil => exact ⟨(fun l e => nomatch e), fun _ => rfl⟩
    | cons x rest => exact ⟨fun l e => (by cases e; exact ⟨[], x.1, x.2, rest, rfl, rfl, rfl⟩), fun e => nomatch e⟩

end Delb.Nav
