import DelbModel.Lemmas.XPath.TokenTree
namespace Delb.XPath

@[simp] theorem expandAxes_nil : expandAxes [] = [] := by simp [expandAxes]
@[simp] theorem expandAxes_tok (t : Token) (ts : List TT) :
    expandAxes (.tok t :: ts) = expandOne t ++ expandAxes ts := by simp [expandAxes]
@[simp] theorem expandAxes_group (g : List TT) (ts : List TT) :
    expandAxes (.group g :: ts) = .group g :: expandAxes ts := by simp [expandAxes]

theorem okSeq_expandOne (b : Bool) (t : Token) (m : List TT) :
    okSeq b (expandOne t ++ m) = okSeq (isOpener t) m := by
  unfold expandOne
  split <;> simp [-String.reduceToList, okSeq, isOpener, tokType_beq, *]

theorem nextCloser_expandOne (t : Token) (m : List TT) :
    nextCloser (expandOne t ++ m) = isCloser t := by
  unfold expandOne
  split <;> simp [-String.reduceToList, nextCloser, isCloser, tokType_beq, *]

theorem nextCloser_expandAxes (l : List TT) : nextCloser (expandAxes l) = nextCloser l := by
  cases l with
  | nil => simp
  | cons x l =>
    cases x with
    | tok t => rw [expandAxes_tok, nextCloser_expandOne]; simp [nextCloser]
    | group g => simp [nextCloser]

theorem okSeq_expandAxes (b : Bool) (l : List TT) : okSeq b (expandAxes l) = okSeq b l := by
  induction l generalizing b with
  | nil => simp
  | cons x l ih =>
    cases x with
    | tok t => simp [okSeq_expandOne, okSeq, ih]
    | group g => simp [okSeq, ih, nextCloser_expandAxes]

theorem expandOne_ne_nil (t : Token) : expandOne t ≠ [] := by
  unfold expandOne
  split <;> exact List.cons_ne_nil _ _

theorem expandAxes_ne_nil {l : List TT} (h : l ≠ []) : expandAxes l ≠ [] := by
  cases l with
  | nil => exact absurd rfl h
  | cons x l => cases x <;> simp [expandOne_ne_nil]

theorem mem_expandOne {t : Token} {x : TT} (h : x ∈ expandOne t) : ∃ u, x = .tok u ∧ u.pos = t.pos := by
  revert x
  unfold expandOne
  split <;> simp only [List.mem_cons, List.not_mem_nil, or_false, forall_eq_or_imp, forall_eq, TT.tok.injEq,
    exists_eq_left', and_self]

/-- stated relative to a list `l'` that contains `l`, so that the induction needs no weakening -/
theorem mem_expandAxes {l l' : List TT} {x : TT} (hs : ∀ y ∈ l, y ∈ l') (h : x ∈ expandAxes l) :
    (∃ g, x = .group g ∧ .group g ∈ l') ∨ (∃ u t, x = .tok u ∧ .tok t ∈ l' ∧ u.pos = t.pos) := by
  induction l with
  | nil => simp at h
  | cons y l ih =>
    obtain ⟨hy, hl⟩ := List.forall_mem_cons.1 hs
    cases y with
    | tok t =>
      rw [expandAxes_tok, List.mem_append] at h
      refine h.elim (fun h => ?_) (ih hl)
      obtain ⟨u, rfl, hu⟩ := mem_expandOne h
      exact Or.inr ⟨u, t, rfl, hy, hu⟩
    | group g =>
      rw [expandAxes_group, List.mem_cons] at h
      exact h.elim (fun h => Or.inl ⟨g, h, hy⟩) (ih hl)

theorem group_mem_expandAxes {l g : List TT} (h : TT.group g ∈ expandAxes l) : TT.group g ∈ l := by
  rcases mem_expandAxes (fun _ hy => hy) h with ⟨g', hg, hm⟩ | ⟨u, t, hx, _⟩
  · cases hg; exact hm
  · cases hx

theorem WF.expandAxes {P : Token → Prop} (hP : ∀ t u : Token, P t → u.pos = t.pos → P u) {l : List TT}
    (h : WF P l) : WF P (expandAxes l) := by
  refine ⟨by rw [okSeq_expandAxes]; exact h.ok, ?_, ?_, ?_⟩
  · intro u hu
    rcases mem_expandAxes (fun _ hy => hy) hu with ⟨g', hg, _⟩ | ⟨u', t, hx, ht, hpos⟩
    · cases hg
    · cases hx; exact hP t _ (h.tok t ht) hpos
  · intro g hg; exact (h.grp g (group_mem_expandAxes hg)).1
  · intro g hg; exact (h.grp g (group_mem_expandAxes hg)).2

/-- every `::` token satisfies `R` or is followed by something that is not a `/`. `parseStep` reports "Missing node test."
    at the end of a `::` that closes a step: a position of the input when the token is one of the input (`R`); a `::` that
    `expandOne` puts in is followed by `node` -/
def axOK (R : Token → Prop) : List TT → Prop
  | [] => True
  | .tok t :: rest =>
    (t.type = .AXIS_SEPARATOR → R t ∨ ∃ x, rest.head? = some x ∧ isSep .SLASH x = false) ∧ axOK R rest
  | .group _ :: rest => axOK R rest

theorem axOK_expandOne {R : Token → Prop} (t : Token) (m : List TT) (ht : R t) (hm : axOK R m) :
    axOK R (expandOne t ++ m) := by
  unfold expandOne
  split
  all_goals simp only [List.cons_append, List.nil_append, axOK, reduceCtorEq, false_imp_iff, true_and, hm, and_true]
  · exact fun _ => Or.inr ⟨_, rfl, rfl⟩
  · exact fun _ => Or.inr ⟨_, rfl, rfl⟩
  · exact fun _ => Or.inr ⟨_, rfl, rfl⟩
  · exact fun _ => Or.inl ht

theorem axOK_expandAxes {R : Token → Prop} {l : List TT} (h : ∀ t, TT.tok t ∈ l → R t) :
    axOK R (expandAxes l) := by
  induction l with
  | nil => simp [axOK]
  | cons x l ih =>
    have ih' := ih (fun t ht => h t (by simp [ht]))
    cases x with
    | tok t => simp; exact axOK_expandOne t _ (h t (by simp)) ih'
    | group g => simpa [axOK] using ih'

theorem axOK_split {R : Token → Prop} {a m : List TT} {t : Token} (ht : t.type = .SLASH)
    (h : axOK R (a ++ .tok t :: m)) : axOK R a ∧ axOK R m := by
  induction a with
  | nil => simp [axOK] at h; exact ⟨by simp [axOK], h.2⟩
  | cons x a ih =>
    cases x with
    | tok u =>
      rw [List.cons_append, axOK] at h
      rw [axOK]
      obtain ⟨h1, h2⟩ := h
      obtain ⟨ih1, ih2⟩ := ih h2
      refine ⟨⟨fun hu => ?_, ih1⟩, ih2⟩
      rcases h1 hu with h | ⟨x, hx, hs⟩
      · exact Or.inl h
      · cases a with
        | nil =>
          rw [List.nil_append, List.head?_cons] at hx
          cases hx; simp [isSep, ht] at hs
        | cons y a => exact Or.inr ⟨x, hx, hs⟩
    | group g => simpa [axOK] using ih (by simpa [axOK] using h)

theorem isSep_true {sep : TokType} {x : TT} (h : isSep sep x = true) : ∃ t, x = .tok t ∧ t.type = sep := by
  cases x with
  | tok t => exact ⟨t, rfl, by simpa [isSep] using h⟩
  | group g => simp [isSep] at h

/-- a separator type that is not a bracket -/
def SepOK (sep : TokType) : Prop := ∀ t : Token, t.type = sep → isOpener t = false ∧ isCloser t = false

theorem partitionAux_of_split {sep : TokType} {Q : List TT → Prop}
    (hQ : ∀ (a m : List TT) (t : Token), t.type = sep → Q (a ++ .tok t :: m) → Q a ∧ Q m)
    (rest cur p : List TT) (h : Q (cur.reverse ++ rest)) (hp : p ∈ partitionAux sep cur rest) : Q p := by
  fun_induction partitionAux sep cur rest with
  | case1 cur =>
    cases List.mem_singleton.1 hp
    simpa using h
  | case2 cur x ts hs _ ih =>
    obtain ⟨t, rfl, ht⟩ := isSep_true hs
    exact ih (hQ _ _ t ht h).2 hp
  | case3 cur x ts hs _ ih =>
    obtain ⟨t, rfl, ht⟩ := isSep_true hs
    obtain ⟨h1, h2⟩ := hQ _ _ t ht h
    rcases List.mem_cons.1 hp with rfl | hp
    · exact h1
    · exact ih h2 hp
  | case4 cur x ts _ ih => exact ih (by simpa using h) hp

theorem partitionTokens_of_split {sep : TokType} {Q : List TT → Prop}
    (hQ : ∀ (a m : List TT) (t : Token), t.type = sep → Q (a ++ .tok t :: m) → Q a ∧ Q m)
    {l p : List TT} (h : Q l) (hp : p ∈ partitionTokens sep l) : Q p :=
  partitionAux_of_split hQ l [] p h hp

theorem partitionTokens_mem {sep : TokType} {l p : List TT} (hp : p ∈ partitionTokens sep l) :
    ∀ x ∈ p, x ∈ l :=
  partitionTokens_of_split (Q := fun q => ∀ x ∈ q, x ∈ l)
    (fun a m t _ h => ⟨fun x hx => h x (by simp [hx]), fun x hx => h x (by simp [hx])⟩) (fun _ hx => hx) hp

theorem partitionTokens_size {sep : TokType} {l p : List TT} (hp : p ∈ partitionTokens sep l) :
    ttsSize p ≤ ttsSize l :=
  partitionTokens_of_split (Q := fun q => ttsSize q ≤ ttsSize l)
    (fun a m t _ h => by simp at h; omega) (Nat.le_refl _) hp

theorem WF.partition {P : Token → Prop} {sep : TokType} (hsep : SepOK sep) {l p : List TT} (h : WF P l)
    (hp : p ∈ partitionTokens sep l) : WF P p :=
  h.sub (partitionTokens_of_split (Q := fun q => okSeq false q = true)
    (fun _ _ t ht h => ⟨okSeq_prefix (hsep t ht).2 h, (hsep t ht).1 ▸ okSeq_suffix h⟩) h.ok hp) (partitionTokens_mem hp)

theorem partitionTokens_axOK {R : Token → Prop} {l p : List TT} (h : axOK R l)
    (hp : p ∈ partitionTokens .SLASH l) : axOK R p :=
  partitionTokens_of_split (Q := axOK R) (fun _ _ _ ht h => axOK_split ht h) h hp

theorem sepOK_SLASH : SepOK .SLASH := by intro t h; simp [isOpener, isCloser, h]
theorem sepOK_COMMA : SepOK .COMMA := by intro t h; simp [isOpener, isCloser, h]
theorem sepOK_PASEQ : SepOK .PASEQ := by intro t h; simp [isOpener, isCloser, h]

end Delb.XPath
