import DelbModel.Model.XPath.Tokenizer
namespace Delb.XPath

/-- `r` is an error satisfying `E` or a value satisfying `A` -/
def Sat {α} (E : Err → Prop) (A : α → Prop) : Except Err α → Prop
  | .error e => E e
  | .ok a => A a

namespace Sat
variable {α : Type} {E : Err → Prop} {A : α → Prop} {r : Except Err α}

theorem error_of (h : Sat E A r) {e : Err} (he : r = .error e) : E e := by subst he; exact h

theorem ok_of (h : Sat E A r) {a : α} (ha : r = .ok a) : A a := by subst ha; exact h

theorem ok {a : α} (h : A a) : Sat E A (.ok a) := h

theorem error {e : Err} (h : E e) : Sat E A (.error e) := h

/-- on a long `if … else if …` chain `split` works through the rest of the chain again at every level, this does not -/
theorem ite {c : Prop} [Decidable c] {a b : Except Err α} (ha : c → Sat E A a) (hb : ¬c → Sat E A b) :
    Sat E A (if c then a else b) := by
  by_cases hc : c
  · rw [if_pos hc]; exact ha hc
  · rw [if_neg hc]; exact hb hc

end Sat

theorem scanString_le (d : Char) (cs : List Char) : ∀ n, scanString d cs = some n → n ≤ cs.length := by
  fun_induction scanString d cs with
  | case1 => nofun
  | case2 cs => rintro _ ⟨⟩; simp
  | case3 => nofun
  | case4 => nofun
  | case5 c _ _ e cs _ ih =>
    intro n h
    obtain ⟨m, hm, rfl⟩ := Option.map_eq_some_iff.1 h
    have := ih m hm
    simp only [List.length_cons]
    omega
  | case6 c cs _ _ ih =>
    intro n h
    obtain ⟨m, hm, rfl⟩ := Option.map_eq_some_iff.1 h
    have := ih m hm
    simp only [List.length_cons]
    omega

theorem matchLiteral_bounds (cs : List Char) (tbl : List (List Char × String)) : ∀ (n : Nat) (ty : TokType),
    matchLiteral cs tbl = some (n, ty) → 1 ≤ n ∧ n ≤ cs.length := by
  fun_induction matchLiteral cs tbl with
  | case1 => nofun
  | case2 lit g rest hc t ht =>
    rintro _ _ ⟨⟩
    exact ⟨List.length_pos_iff.2 hc.1, (List.isPrefixOf_iff_prefix.1 hc.2).length_le⟩
  | case3 lit g rest hc hn ih => exact ih
  | case4 lit g rest hc ih => exact ih

theorem one_add_takeWhile_le {α} (p : α → Bool) (c : α) (rest : List α) :
    1 ≤ 1 + (rest.takeWhile p).length ∧ 1 + (rest.takeWhile p).length ≤ (c :: rest).length := by
  have := (List.takeWhile_sublist p (l := rest)).length_le
  simp only [List.length_cons]
  omega

/-- one line per alternative of `grab_token` -/
theorem grab_bounds (cs : List Char) : ∀ n ty, grab cs = some (n, ty) → 1 ≤ n ∧ n ≤ cs.length := by
  fun_cases grab cs with
  | case1 => nofun
  | case2 c rest m hm =>
    rintro _ _ ⟨⟩
    split at hm
    · have := scanString_le c rest m hm
      simp only [List.length_cons]
      omega
    · cases hm
  | case3 c rest => rintro _ _ ⟨⟩; exact one_add_takeWhile_le _ c rest
  | case4 c rest => rintro _ _ ⟨⟩; exact one_add_takeWhile_le _ c rest
  | case5 c rest _ _ _ r hr => rw [hr]; rintro _ _ ⟨⟩; exact matchLiteral_bounds _ _ _ _ hr
  | case6 c rest _ _ _ hw hr => rw [hr, if_pos hw]; rintro _ _ ⟨⟩; exact one_add_takeWhile_le _ c rest
  | case7 c rest _ _ _ hw hr => rw [hr, if_neg hw]; nofun

/-- `t` is a non-empty slice of `s` at its recorded position -/
def Slice (s : Str) (t : Token) : Prop :=
  t.str ≠ [] ∧ (s.drop t.pos).take t.str.length = t.str ∧ t.pos + t.str.length ≤ s.length

theorem Slice.of_append (pre : Str) {w : Str} (post : Str) (hw : w ≠ []) (ty : TokType) :
    Slice (pre ++ (w ++ post)) { pos := pre.length, str := w, type := ty } :=
  ⟨hw, by simp, by simp⟩

theorem tokenizeAux_spec : ∀ (fuel : Nat) (pre cs : List Char), cs.length < fuel →
    Sat (fun e => ∃ p, e = .parsing (some p) "Unrecognized token." ∧ p < (pre ++ cs).length)
      (fun ts => ∀ t ∈ ts, Slice (pre ++ cs) t) (tokenizeAux fuel pre.length cs)
  | 0, _, _, h => by omega
  | _ + 1, _, [], _ => by rw [tokenizeAux]; exact .ok (by simp)
  | fuel + 1, pre, c :: rest, hf => by
    rw [tokenizeAux]
    cases hg : grab (c :: rest) with
    | none => exact .error ⟨_, rfl, by simp⟩
    | some r =>
      obtain ⟨n, ty⟩ := r
      obtain ⟨h1, h2⟩ := grab_bounds _ _ _ hg
      -- the token is the first `n` characters; the loop goes on behind them
      have hcs := List.take_append_drop n (c :: rest)
      have ih := tokenizeAux_spec fuel (pre ++ (c :: rest).take n) ((c :: rest).drop n)
        (by rw [List.length_drop]; simp only [List.length_cons] at hf h2 ⊢; omega)
      have hlen : (pre ++ (c :: rest).take n).length = pre.length + n := by
        rw [List.length_append, List.length_take, Nat.min_eq_left h2]
      rw [hlen, List.append_assoc, hcs] at ih
      dsimp only
      cases hr : tokenizeAux fuel (pre.length + n) (List.drop n (c :: rest)) with
      | error e => exact ih.error_of hr
      | ok ts =>
        have iho := ih.ok_of hr
        refine .ite (fun _ => .ok iho) fun _ => .ok fun t ht => ?_
        rcases List.mem_cons.1 ht with rfl | ht
        · have := Slice.of_append pre ((c :: rest).drop n) (w := (c :: rest).take n)
            (by simp [List.take_eq_nil_iff]; omega) ty
          rwa [hcs] at this
        · exact iho t ht

theorem tokenize_spec (s : Str) :
    Sat (fun e => ∃ p, e = .parsing (some p) "Unrecognized token." ∧ p < s.length) (fun ts => ∀ t ∈ ts, Slice s t)
      (tokenize s) :=
  tokenizeAux_spec (s.length + 1) [] s (Nat.lt_succ_self _)

end Delb.XPath
