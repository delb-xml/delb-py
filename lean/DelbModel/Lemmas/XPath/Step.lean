import DelbModel.Lemmas.XPath.Expr
import DelbModel.Lemmas.XPath.Group
import DelbModel.Lemmas.XPath.Tokenizer
namespace Delb.XPath

/-- invariant of the token list while a location step is consumed -/
def StepOK (n fuel : Nat) (l : List TT) : Prop :=
  WF (PosLt n) l ∧ ∀ g, TT.group g ∈ l → ttsSize g < fuel

theorem StepOK.drop_succ {n fuel : Nat} {l : List TT} {k : Nat} {t : Token} (h : StepOK n fuel l)
    (hk : l[k]? = some (.tok t)) (ho : isOpener t = false) : StepOK n fuel (l.drop (k+1)) :=
  ⟨h.1.drop_succ hk ho, fun g hg => h.2 g (List.mem_of_mem_drop hg)⟩

theorem StepOK.drop_of_matches {n fuel : Nat} {l : List TT} {p : Pattern} (h : StepOK n fuel l)
    (hM : Matches l p) (k : Nat) {ty : TokType} (hk : p[k]? = some (some ty))
    (hty : (ty == .OPEN_BRACKET || ty == .OPEN_PARENS) = false) : StepOK n fuel (l.drop (k+1)) := by
  obtain ⟨t, ht, rfl⟩ := hM.tok k hk
  exact h.drop_succ ht hty

theorem parsePreds_errsOK (n fuel : Nat) : ∀ (k : Nat) (tokens : List TT), StepOK n fuel tokens →
    tokens.length < k → ErrsOK n (parsePreds k fuel tokens)
  | 0, _, _, h => by omega
  | _ + 1, [], _, _ => by rw [parsePreds]; exact .ok trivial
  | k + 1, x :: xs, hok, hlen => by
    rw [parsePreds]
    refine .ite (fun hm => ?_) fun _ => ?_
    · have hM := Matches.of_initial hm
      obtain ⟨g, hg⟩ := hM.group 1 rfl
      have hgm : TT.group g ∈ x :: xs := List.mem_of_getElem? hg
      have hrest := parsePreds_errsOK n fuel k _ (hok.drop_of_matches hM 2 rfl rfl) (by simp at hlen ⊢; omega)
      rw [getGroup_eq _ hg]
      dsimp -zeta only
      cases hp : parseExpr fuel g with
      | error e => exact (parseExpr_errsOK n fuel g (hok.1.grp g hgm).2 (hok.2 g hgm)).error_of hp
      | ok p =>
        dsimp -zeta only
        extract_lets p'
        -- `[n]` becomes `[position() = n]`; `mkFunc` fails without a position
        have hp' : ErrsOK n p' := by
          unfold p'
          split
          · split
            · exact .ok trivial
            · exact .error trivial
          · exact .ok trivial
        clear_value p'
        rcases p' with e | p''
        · exact hp'
        dsimp only
        cases hr : parsePreds k fuel (List.drop 3 (x :: xs)) with
        | error e => exact hrest.error_of hr
        | ok ps => exact .ok trivial
    · obtain ⟨t, ht, htp⟩ := hok.1.last (by simp)
      rw [getLastTok_eq _ ht]
      exact .error (Nat.le_of_lt htp)

theorem parseStep_errsOK (n fuel : Nat) (all : List TT) (hok : StepOK n fuel all) (hax : axOK (EndLe n) all) :
    ErrsOK n (parseStep fuel all) := by
  unfold parseStep
  refine .ite (fun _ => .error trivial) fun hne => ?_
  have hne' : all ≠ [] := by simpa using hne
  -- every stage is a `let`: its outcome is established, then only that is kept
  extract_lets axisRes
  have h1 : Sat (ErrOK n) (fun r => StepOK n fuel r.2 ∧
      (r.2 = [] → ∃ lt, all.getLast? = some (.tok lt) ∧ lt.pos + lt.str.length ≤ n)) axisRes := by
    refine .ite (fun hm => ?_) fun _ => .ok ⟨hok, fun h => absurd h hne'⟩
    have hM := Matches.of_initial hm
    obtain ⟨t0, hm0, -⟩ := hM.tok 0 rfl
    obtain ⟨t1, hm1, hty1⟩ := hM.tok 1 rfl
    rw [getTok_eq _ hm0]
    dsimp only
    cases mkAxis t0.str with
    | none => exact .error (Nat.le_of_lt (hok.1.tok t0 (List.mem_of_getElem? hm0)))
    | some ax =>
      refine .ok ⟨hok.drop_of_matches hM 1 rfl rfl, fun hnil => ?_⟩
      -- nothing is left: the `::` is the last token and, not being followed by anything, a real one
      have hlen := hM.1
      rcases all with _ | ⟨a, _ | ⟨b, _ | ⟨c, r⟩⟩⟩
      · simp at hlen
      · simp at hlen
      · simp only [List.getElem?_cons_succ, List.getElem?_cons_zero, Option.some.injEq] at hm0 hm1
        subst hm0 hm1
        simp [axOK] at hax
        exact ⟨t1, rfl, hax.2 hty1⟩
      · simp at hnil
  clear_value axisRes
  rcases axisRes with e | ⟨axis, tokens⟩
  · exact h1
  obtain ⟨hok1, hlast⟩ := h1
  dsimp -zeta only
  refine .ite (fun hemp => ?_) fun hne1 => ?_
  · obtain ⟨lt, hlt, hreal⟩ := hlast (by simpa using hemp)
    rw [getLastTok_eq _ hlt]
    exact .error hreal
  extract_lets pfxRes
  have h2 : Sat (ErrOK n) (fun r => StepOK n fuel r.2 ∧ r.2 ≠ []) pfxRes := by
    refine .ite (fun hm => ?_) fun _ => .ok ⟨hok1, by simpa using hne1⟩
    obtain ⟨q, hM⟩ : ∃ q, Matches tokens [some .NAME, some .COLON, q] := by
      rcases Bool.or_eq_true_iff.1 hm with h | h
      · exact ⟨_, .of_initial h⟩
      · exact ⟨_, .of_initial h⟩
    obtain ⟨t0, ht0, -⟩ := hM.tok 0 rfl
    rw [getTok_eq _ ht0]
    refine .ok ⟨hok1.drop_of_matches hM 1 rfl rfl, fun hnil => ?_⟩
    exact Nat.not_succ_le_self 2 (Nat.le_trans hM.1 (List.drop_eq_nil_iff.1 hnil))
  clear_value pfxRes
  rcases pfxRes with e | ⟨pfx, tokens2⟩
  · exact h2
  obtain ⟨hok2, hne2⟩ := h2
  dsimp -zeta only
  obtain ⟨h0, hh0, hp0⟩ := hok2.1.head hne2
  have hp0' : h0.pos ≤ n := Nat.le_of_lt hp0
  extract_lets testRes
  have h3 : Sat (ErrOK n) (fun r => StepOK n fuel r.2) testRes := by
    -- wherever the first token is looked up it is `h0`
    simp only [testRes, getTok_eq _ hh0]
    refine .ite (fun hm => .ite (fun _ => .error hp0') fun _ => ?_) fun _ => ?_
    · have hM := Matches.of_initial hm
      obtain ⟨g, hg⟩ := hM.group 2 rfl
      rw [getGroup_eq _ hg]
      dsimp only
      obtain ⟨hgne, hgw⟩ := hok2.1.grp g (List.mem_of_getElem? hg)
      obtain ⟨tg, htg, -⟩ := hgw.head hgne
      rw [getTok_eq _ htg]
      exact .ok (hok2.drop_of_matches hM 3 rfl rfl)
    refine .ite (fun hm => ?_) fun _ => ?_
    · cases lookupNodeType (String.ofList h0.str) Gen.nodeTypeTests with
      | none => exact .error hp0'
      | some ty => exact .ok (hok2.drop_of_matches (.of_initial hm) 2 rfl rfl)
    refine .ite (fun hm => .ok (hok2.drop_of_matches (.of_initial hm) 0 rfl rfl)) fun _ => ?_
    refine .ite (fun hm => .ok (hok2.drop_of_matches (.of_initial hm) 0 rfl rfl)) fun _ => ?_
    exact .ite (fun _ => .error hp0') fun _ => .error hp0'
  clear_value testRes
  rcases testRes with e | ⟨test, tokens3⟩
  · exact h3
  dsimp only
  cases hp : parsePreds (tokens3.length + 1) fuel tokens3 with
  | error e => exact (parsePreds_errsOK n fuel _ _ h3 (Nat.lt_succ_self _)).error_of hp
  | ok preds => exact .ok trivial

theorem parseSteps_errsOK {n fuel : Nat} {ps : List (List TT)} (h : ∀ p ∈ ps, ErrsOK n (parseStep fuel p)) :
    ErrsOK n (parseSteps fuel ps) := by
  fun_induction parseSteps fuel ps with
  | case1 => exact .ok trivial
  | case2 p ps e hp => exact (h p List.mem_cons_self).error_of hp
  | case3 p ps s hp e hps ih => exact (ih fun q hq => h q (List.mem_cons_of_mem _ hq)).error_of hps
  | case4 => exact .ok trivial

/-- invariant of the token list of a location path (before `expand_axes`) -/
def PathOK (n fuel : Nat) (l : List TT) : Prop :=
  WF (Within n) l ∧ ∀ g, TT.group g ∈ l → ttsSize g < fuel

theorem parsePath_errsOK (n fuel : Nat) (tokens : List TT) (hok : PathOK n fuel tokens) :
    ErrsOK n (parsePath fuel tokens) := by
  unfold parsePath
  refine .ite (fun _ => .error trivial) fun hne => ?_
  have hwf : WF (PosLt n) (expandAxes tokens) :=
    WF.expandAxes (P := PosLt n) (fun t u ht hu => by simp only [PosLt] at ht ⊢; omega)
      (hok.1.mono (fun t ht => ht.1))
  obtain ⟨t0, ht0, _⟩ := hwf.head (expandAxes_ne_nil (by simpa using hne))
  dsimp only
  rw [List.head?_eq_getElem?, ht0]
  dsimp only
  cases hs : parseSteps fuel (partitionTokens .SLASH (expandAxes tokens)) with
  | ok steps => exact .ok trivial
  | error e =>
    refine (parseSteps_errsOK fun p hp => parseStep_errsOK n fuel p
      ⟨hwf.partition sepOK_SLASH hp, fun g hg => ?_⟩ ?_).error_of hs
    · exact hok.2 g (group_mem_expandAxes (partitionTokens_mem hp _ hg))
    · exact partitionTokens_axOK (axOK_expandAxes (fun t ht => (hok.1.tok t ht).2)) hp

theorem parsePaths_errsOK {n fuel : Nat} {ps : List (List TT)} (h : ∀ p ∈ ps, PathOK n fuel p) :
    ErrsOK n (parsePaths fuel ps) := by
  fun_induction parsePaths fuel ps with
  | case1 => exact .ok trivial
  | case2 p ps e hp => exact (parsePath_errsOK n fuel p (h p List.mem_cons_self)).error_of hp
  | case3 p ps x hp e hps ih => exact (ih fun q hq => h q (List.mem_cons_of_mem _ hq)).error_of hps
  | case4 => exact .ok trivial

theorem parse_errOK (s : Str) :
    Sat (fun e => ErrOK s.length e ∧ ∀ msg, e ≠ .parsing none msg) (fun _ => True) (parse s) := by
  unfold parse
  extract_lets r
  have hr : ErrsOK s.length r := by
    unfold r
    cases htoks : tokenize s with
    | error e =>
      obtain ⟨p, rfl, hp⟩ := (tokenize_spec s).error_of htoks
      exact .error (Nat.le_of_lt hp)
    | ok toks =>
      have hreal : ∀ t ∈ toks, Within s.length t := fun t ht => ((tokenize_spec s).ok_of htoks t ht).within
      have hg := groupEnclosed_spec s.length (Within s.length) (fun t ht => ht.1) toks hreal
      dsimp only
      cases htokens : groupEnclosed toks with
      | error e => exact hg.error_of htokens
      | ok tokens =>
        have hwf := hg.ok_of htokens
        have hpath : PathOK s.length (ttsSize tokens + 1) tokens :=
          ⟨hwf, fun g hg => by have := ttsSize_group_lt hg; omega⟩
        dsimp only
        refine .ite (fun _ => parsePaths_errsOK fun p hp => ⟨hwf.partition sepOK_PASEQ hp, fun g hg => ?_⟩) fun _ =>
          parsePaths_errsOK fun p hp => by simp at hp; subst hp; exact hpath
        exact hpath.2 g (partitionTokens_mem hp _ hg)
  clear_value r
  -- the `except` clause: a missing position becomes 0
  rcases r with (⟨_ | p, msg⟩ | ⟨p, msg⟩ | _ | _) | x
  · exact ⟨Nat.zero_le _, fun _ h => nomatch h⟩
  · exact ⟨hr, fun _ h => nomatch h⟩
  · exact ⟨hr, fun _ h => nomatch h⟩
  · exact hr.elim
  · exact hr.elim
  · trivial

end Delb.XPath
