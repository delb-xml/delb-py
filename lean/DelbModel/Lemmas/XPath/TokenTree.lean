import DelbModel.Model.XPath.Parser
import DelbModel.Lemmas.XPath.Tokenizer
import DelbModel.Lemmas.General
namespace Delb.XPath

/-- the acceptable errors: parsing errors / unsupported with a position `≤ n` (or none yet) -/
def ErrOK (n : Nat) : Err → Prop
  | .parsing none _ => True
  | .parsing (some p) _ => p ≤ n
  | .unsupported p _ => p ≤ n
  | .pyError _ _ => False
  | .outOfFuel => False

/-- `r` fails only with acceptable errors -/
abbrev ErrsOK {α} (n : Nat) (r : Except Err α) : Prop := Sat (ErrOK n) (fun _ => True) r

@[simp] theorem ttsSize_nil : ttsSize [] = 0 := by rw [ttsSize]
@[simp] theorem ttsSize_cons (x : TT) (l : List TT) : ttsSize (x :: l) = ttSize x + ttsSize l := by rw [ttsSize]
@[simp] theorem ttSize_tok (t : Token) : ttSize (.tok t) = 1 := by rw [ttSize]
@[simp] theorem ttSize_group (g : List TT) : ttSize (.group g) = 1 + ttsSize g := by rw [ttSize]

theorem ttSize_pos (x : TT) : 1 ≤ ttSize x := by cases x <;> simp

@[simp] theorem ttsSize_append (a b : List TT) : ttsSize (a ++ b) = ttsSize a + ttsSize b := by
  induction a with
  | nil => rw [List.nil_append, ttsSize_nil, Nat.zero_add]
  | cons x a ih => rw [List.cons_append, ttsSize_cons, ttsSize_cons, ih, Nat.add_assoc]

@[simp] theorem ttsSize_reverse (a : List TT) : ttsSize a.reverse = ttsSize a := by
  induction a with
  | nil => rfl
  | cons x a ih => simp [ih]; omega

theorem length_le_ttsSize (l : List TT) : l.length ≤ ttsSize l := by
  induction l with
  | nil => simp
  | cons x l ih => have := ttSize_pos x; simp; omega

theorem ttSize_le_of_mem {x : TT} {l : List TT} (h : x ∈ l) : ttSize x ≤ ttsSize l := by
  obtain ⟨a, b, rfl⟩ := List.append_of_mem h
  simp only [ttsSize_append, ttsSize_cons]
  omega

theorem ttsSize_group_lt {g l : List TT} (h : TT.group g ∈ l) : ttsSize g < ttsSize l := by
  have := ttSize_le_of_mem h; simp at this; omega

theorem ttsSize_split {l : List TT} {i : Nat} {x : TT} (h : l[i]? = some x) :
    ttsSize l = ttsSize (l.take i) + ttSize x + ttsSize (l.drop (i+1)) := by
  conv => lhs; rw [eq_take_cons_drop h]
  rw [ttsSize_append, ttsSize_cons, Nat.add_assoc]

theorem tokType_beq (a b : TokType) : (a == b) = decide (a = b) := rfl

def nextCloser : List TT → Bool
  | .tok c :: _ => isCloser c
  | _ => false

/-- no group at the start unless `b`; every group sits between an opener and a closer token -/
def okSeq : Bool → List TT → Bool
  | _, [] => true
  | _, .tok t :: rest => okSeq (isOpener t) rest
  | b, .group _ :: rest => b && nextCloser rest && okSeq false rest

theorem okSeq_mono {b : Bool} {l : List TT} (h : okSeq false l = true) : okSeq b l = true := by
  cases l with
  | nil => simp [okSeq]
  | cons x l => cases x <;> simp_all [okSeq]

theorem nextCloser_append {l : List TT} (m : List TT) (h : nextCloser l = true) : nextCloser (l ++ m) = true := by
  cases l with
  | nil => simp [nextCloser] at h
  | cons x l => cases x <;> simp_all [nextCloser]

theorem okSeq_append {b : Bool} {l m : List TT} (hl : okSeq b l = true) (hm : okSeq false m = true) :
    okSeq b (l ++ m) = true := by
  fun_induction okSeq b l with
  | case1 => exact okSeq_mono hm
  | case2 b t rest ih => exact ih hl
  | case3 b g rest ih =>
    simp only [Bool.and_eq_true] at hl
    simp only [List.cons_append, okSeq, Bool.and_eq_true]
    exact ⟨⟨hl.1.1, nextCloser_append m hl.1.2⟩, ih hl.2⟩

theorem okSeq_tail {b : Bool} {x : TT} {l : List TT} (h : okSeq b (x :: l) = true) : ∃ b', okSeq b' l = true := by
  cases x with
  | tok t => exact ⟨_, by simpa [okSeq] using h⟩
  | group g => simp [okSeq] at h; exact ⟨_, h.2⟩

theorem okSeq_suffix {b : Bool} {a m : List TT} {t : Token} (h : okSeq b (a ++ .tok t :: m) = true) :
    okSeq (isOpener t) m = true := by
  induction a generalizing b with
  | nil => exact h
  | cons x a ih =>
    obtain ⟨b', hb'⟩ := okSeq_tail h
    exact ih hb'

theorem okSeq_prefix {b : Bool} {a m : List TT} {t : Token} (hc : isCloser t = false)
    (h : okSeq b (a ++ .tok t :: m) = true) : okSeq b a = true := by
  induction a generalizing b with
  | nil => rfl
  | cons x a ih =>
    cases x with
    | tok u => exact ih h
    | group g =>
      simp only [List.cons_append, okSeq, Bool.and_eq_true] at h ⊢
      refine ⟨⟨h.1.1, ?_⟩, ih h.2⟩
      cases a with
      | nil => simp [nextCloser, hc] at h
      | cons y a => cases y <;> exact h.1.2

theorem okSeq_head {l : List TT} (h : okSeq false l = true) (hne : l ≠ []) : ∃ t, l[0]? = some (.tok t) := by
  cases l with
  | nil => exact absurd rfl hne
  | cons x l => cases x with
    | tok t => exact ⟨t, rfl⟩
    | group g => simp [okSeq] at h

theorem okSeq_last {b : Bool} {l : List TT} (h : okSeq b l = true) (hne : l ≠ []) :
    ∃ t, l.getLast? = some (.tok t) := by
  induction l generalizing b with
  | nil => exact absurd rfl hne
  | cons x l ih =>
    cases l with
    | nil =>
      cases x with
      | tok t => exact ⟨t, rfl⟩
      | group g => simp [okSeq, nextCloser] at h
    | cons y l =>
      obtain ⟨b', hb'⟩ := okSeq_tail h
      obtain ⟨t, ht⟩ := ih hb' (by simp)
      exact ⟨t, by simpa [List.getLast?_cons_cons] using ht⟩

/-- well-formed token trees whose tokens all satisfy `P` -/
inductive WF (P : Token → Prop) : List TT → Prop
  | mk {l : List TT} : okSeq false l = true → (∀ t, TT.tok t ∈ l → P t) →
      (∀ g, TT.group g ∈ l → g ≠ []) → (∀ g, TT.group g ∈ l → WF P g) → WF P l

theorem WF.ok {P l} (h : WF P l) : okSeq false l = true := by cases h; assumption
theorem WF.tok {P l} (h : WF P l) : ∀ t, TT.tok t ∈ l → P t := by cases h; assumption
theorem WF.grp {P l} (h : WF P l) : ∀ g, TT.group g ∈ l → g ≠ [] ∧ WF P g := by
  cases h with
  | mk _ _ h1 h2 => exact fun g hg => ⟨h1 g hg, h2 g hg⟩

theorem WF.mono {P Q : Token → Prop} (hPQ : ∀ t, P t → Q t) {l : List TT} (h : WF P l) : WF Q l := by
  induction h with
  | mk hok hpos hne _ ih => exact ⟨hok, fun t ht => hPQ t (hpos t ht), hne, ih⟩

theorem WF.nil (P : Token → Prop) : WF P [] := ⟨by simp [okSeq], by simp, by simp, by simp⟩

theorem WF.sub {P : Token → Prop} {l m : List TT} (h : WF P l) (hok : okSeq false m = true) (hs : ∀ x ∈ m, x ∈ l) :
    WF P m :=
  ⟨hok, fun t ht => h.tok t (hs _ ht), fun g hg => (h.grp g (hs _ hg)).1, fun g hg => (h.grp g (hs _ hg)).2⟩

theorem WF.append {P : Token → Prop} {l m : List TT} (hl : WF P l) (hm : WF P m) : WF P (l ++ m) :=
  ⟨okSeq_append hl.ok hm.ok,
   fun t ht => by rcases List.mem_append.1 ht with h | h; exact hl.tok t h; exact hm.tok t h,
   fun g hg => by rcases List.mem_append.1 hg with h | h; exact (hl.grp g h).1; exact (hm.grp g h).1,
   fun g hg => by rcases List.mem_append.1 hg with h | h; exact (hl.grp g h).2; exact (hm.grp g h).2⟩

theorem WF.take {P : Token → Prop} {l : List TT} {k : Nat} {t : Token} (h : WF P l) (hk : l[k]? = some (.tok t))
    (hc : isCloser t = false) : WF P (l.take k) := by
  have hok := h.ok
  rw [eq_take_cons_drop hk] at hok
  exact h.sub (okSeq_prefix hc hok) fun _ => List.mem_of_mem_take

theorem WF.drop_succ {P : Token → Prop} {l : List TT} {k : Nat} {t : Token} (h : WF P l) (hk : l[k]? = some (.tok t))
    (ho : isOpener t = false) : WF P (l.drop (k+1)) := by
  have hok := h.ok
  rw [eq_take_cons_drop hk] at hok
  exact h.sub (ho ▸ okSeq_suffix hok) fun _ => List.mem_of_mem_drop

theorem WF.head {P : Token → Prop} {l : List TT} (h : WF P l) (hne : l ≠ []) : ∃ t, l[0]? = some (.tok t) ∧ P t := by
  obtain ⟨t, ht⟩ := okSeq_head h.ok hne
  exact ⟨t, ht, h.tok t (List.mem_of_getElem? ht)⟩

theorem WF.last {P : Token → Prop} {l : List TT} (h : WF P l) (hne : l ≠ []) :
    ∃ t, l.getLast? = some (.tok t) ∧ P t := by
  obtain ⟨t, ht⟩ := okSeq_last h.ok hne
  exact ⟨t, ht, h.tok t (List.mem_of_getLast? ht)⟩

/-! ## where a token lies in an input of length `n` -/

abbrev PosLt (n : Nat) : Token → Prop := fun t => t.pos < n

abbrev EndLe (n : Nat) : Token → Prop := fun t => t.pos + t.str.length ≤ n

abbrev Within (n : Nat) : Token → Prop := fun t => PosLt n t ∧ EndLe n t

theorem Slice.within {s : Str} {t : Token} (h : Slice s t) : Within s.length t := by
  have h0 : 0 < t.str.length := List.length_pos_iff.2 h.1
  have h3 := h.2.2
  exact ⟨by simp only [PosLt]; omega, h3⟩

end Delb.XPath
