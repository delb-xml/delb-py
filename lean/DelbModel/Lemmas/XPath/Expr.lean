import DelbModel.Lemmas.XPath.Expand
namespace Delb.XPath

/-- what `allMatch` and `initialMatch` share: every position of the pattern is there and fits -/
def Matches (l : List TT) (p : Pattern) : Prop := p.length ≤ l.length ∧ comparePattern l p = true

theorem Matches.of_all {l : List TT} {p : Pattern} (h : allMatch l p = true) : Matches l p := by
  simp only [allMatch, Bool.and_eq_true, beq_iff_eq] at h
  exact ⟨Nat.le_of_eq h.1.symm, h.2⟩

theorem Matches.of_initial {l : List TT} {p : Pattern} (h : initialMatch l p = true) : Matches l p := by
  simpa [initialMatch, Matches] using h

theorem comparePattern_tail {x : TT} {l : List TT} {q : Option TokType} {p : Pattern}
    (h : comparePattern (x :: l) (q :: p) = true) : comparePattern [x] [q] = true ∧ comparePattern l p = true := by
  cases x <;> cases q <;> simp_all [comparePattern]

theorem comparePattern_getElem : ∀ (l : List TT) (p : Pattern) (k : Nat) (q : Option TokType),
    comparePattern l p = true → p[k]? = some q → k < l.length →
    ∃ x, l[k]? = some x ∧ comparePattern [x] [q] = true
  | [], _, _, _, _, _, hk => by simp at hk
  | _ :: _, [], _, _, _, hp, _ => by simp at hp
  | x :: _, _ :: _, 0, _, h, hp, _ => by
    simp only [List.getElem?_cons_zero, Option.some.injEq] at hp
    exact ⟨x, rfl, hp ▸ (comparePattern_tail h).1⟩
  | _ :: l, _ :: p, k + 1, q, h, hp, hk => by
    simpa using comparePattern_getElem l p k q (comparePattern_tail h).2 (by simpa using hp) (by simpa using hk)

theorem Matches.lt {l : List TT} {p : Pattern} (h : Matches l p) {k : Nat} {q : Option TokType}
    (hk : p[k]? = some q) : k < l.length :=
  Nat.lt_of_lt_of_le (List.getElem?_eq_some_iff.1 hk).1 h.1

theorem Matches.tok {l : List TT} {p : Pattern} (h : Matches l p) (k : Nat) {ty : TokType}
    (hk : p[k]? = some (some ty)) : ∃ t, l[k]? = some (.tok t) ∧ t.type = ty := by
  obtain ⟨x, hx, hq⟩ := comparePattern_getElem l p k _ h.2 hk (h.lt hk)
  cases x with
  | tok t => exact ⟨t, hx, by simpa [comparePattern] using hq⟩
  | group g => simp [comparePattern] at hq

theorem Matches.group {l : List TT} {p : Pattern} (h : Matches l p) (k : Nat) (hk : p[k]? = some none) :
    ∃ g, l[k]? = some (.group g) := by
  obtain ⟨x, hx, hq⟩ := comparePattern_getElem l p k _ h.2 hk (h.lt hk)
  cases x with
  | tok t => simp [comparePattern] at hq
  | group g => exact ⟨g, hx⟩

theorem getTok_eq {l : List TT} {k : Nat} {t : Token} (site : String) (h : l[k]? = some (.tok t)) :
    getTok l k site = .ok t := by simp [getTok, h]

theorem getGroup_eq {l : List TT} {k : Nat} {g : List TT} (site : String) (h : l[k]? = some (.group g)) :
    getGroup l k site = .ok g := by simp [getGroup, h]

theorem getLastTok_eq {l : List TT} {t : Token} (site : String) (h : l.getLast? = some (.tok t)) :
    getLastTok l site = .ok t := by simp [getLastTok, h]

theorem findOp_spec {op : TokType × String} {l : List TT} {k i : Nat} {t : Token} (h : findOp op k l = some (i, t)) :
    ∃ j, i = j + k ∧ l[j]? = some (.tok t) ∧ t.type = op.1 := by
  fun_induction findOp op k l with
  | case1 => cases h
  | case2 k u ts hc =>
    cases h
    exact ⟨0, (Nat.zero_add _).symm, rfl, by simpa using (Bool.and_eq_true_iff.1 hc).1⟩
  | case3 k u ts _ ih =>
    obtain ⟨j, rfl, hj, ht⟩ := ih h
    exact ⟨j + 1, by omega, hj, ht⟩
  | case4 k g ts ih =>
    obtain ⟨j, rfl, hj, ht⟩ := ih h
    exact ⟨j + 1, by omega, hj, ht⟩

theorem findFirstOp_spec {ts : List TT} {ops : List (TokType × String)} {name : String} {i : Nat} {t : Token}
    (h : findFirstOp ts ops = some (name, i, t)) : ts[i]? = some (.tok t) ∧ ∃ op ∈ ops, t.type = op.1 := by
  fun_induction findFirstOp ts ops with
  | case1 => cases h
  | case2 op ops j u hf =>
    cases h
    obtain ⟨_, rfl, hj, ht⟩ := findOp_spec hf
    exact ⟨hj, op, List.mem_cons_self, ht⟩
  | case3 op ops _ ih =>
    obtain ⟨hi, op', hop', ht⟩ := ih h
    exact ⟨hi, op', List.mem_cons_of_mem _ hop', ht⟩

theorem operator_nonbracket {ts : List TT} {name : String} {i : Nat} {t : Token}
    (h : findFirstOp ts operators = some (name, i, t)) :
    ts[i]? = some (.tok t) ∧ isOpener t = false ∧ isCloser t = false := by
  obtain ⟨hi, op, hop, ht⟩ := findFirstOp_spec h
  have : ∀ op ∈ operators, op.1 = .NAME ∨ op.1 = .OTHER_OPS := by decide
  refine ⟨hi, ?_⟩
  rcases this op hop with h | h <;> simp [isOpener, isCloser, ht, h, tokType_beq]

theorem parseArgs_errsOK {n fuel : Nat} : ∀ {ps : List (List TT)},
    (∀ p ∈ ps, ErrsOK n (parseExpr fuel p)) → ErrsOK n (parseArgs fuel ps)
  | [], _ => by rw [parseArgs]; exact .ok trivial
  | p :: ps, h => by
    rw [parseArgs]
    cases hp : parseExpr fuel p with
    | error e => exact (h p (by simp)).error_of hp
    | ok a =>
      cases hps : parseArgs fuel ps with
      | error e => exact (parseArgs_errsOK fun q hq => h q (by simp [hq])).error_of hps
      | ok as => exact .ok trivial

theorem parseExpr_errsOK (n : Nat) : ∀ fuel tokens, WF (PosLt n) tokens → ttsSize tokens < fuel →
    ErrsOK n (parseExpr fuel tokens)
  | 0, _, _, h => by omega
  | fuel + 1, tokens, hwf, hsz => by
    have ih := parseExpr_errsOK n fuel
    have hpos : ∀ {k : Nat} {t : Token}, tokens[k]? = some (.tok t) → t.pos ≤ n :=
      fun h => Nat.le_of_lt (hwf.tok _ (List.mem_of_getElem? h))
    rw [parseExpr]
    refine .ite (fun _ => .error trivial) fun hne => ?_
    -- wherever the first item is looked up it is the token `t0`
    obtain ⟨t0, ht0, hp0⟩ := hwf.head (by simpa using hne)
    have hp0' : t0.pos ≤ n := Nat.le_of_lt hp0
    simp only [getTok_eq _ ht0]
    refine .ite (fun _ => .ite (fun _ => .error hp0') fun _ => .ok trivial) fun _ => ?_
    refine .ite (fun _ => .ok trivial) fun _ => ?_
    refine .ite (fun hm => ?_) fun _ => ?_
    · obtain ⟨t, ht, -⟩ := (Matches.of_all hm).tok 1 rfl
      rw [getTok_eq _ ht]
      exact .ok trivial
    refine .ite (fun hm => ?_) fun _ => ?_
    · obtain ⟨t1, ht1, -⟩ := (Matches.of_all hm).tok 1 rfl
      obtain ⟨t3, ht3, -⟩ := (Matches.of_all hm).tok 3 rfl
      rw [getTok_eq _ ht1, getTok_eq _ ht3]
      exact .ok trivial
    refine .ite (fun hm => ?_) fun _ => ?_
    · obtain ⟨g, hg⟩ := (Matches.of_all hm).group 2 rfl
      have hgm : TT.group g ∈ tokens := List.mem_of_getElem? hg
      have hgs := ttsSize_group_lt hgm
      rw [getGroup_eq _ hg]
      dsimp only
      cases ha : parseArgs fuel (partitionTokens .COMMA g) with
      | error e =>
        refine (parseArgs_errsOK fun p hp => ih p ((hwf.grp g hgm).2.partition sepOK_COMMA hp) ?_).error_of ha
        have := partitionTokens_size hp
        omega
      | ok args =>
        dsimp only
        cases mkFunc t0.str args with
        | error msg => exact .error hp0'
        | ok f => exact .ok trivial
    refine .ite (fun _ => ?_) fun _ => ?_
    · cases mkFunc t0.str [] with
      | error msg => exact .error trivial
      | ok f => exact .ok trivial
    refine .ite (fun hm => ?_) fun _ => ?_
    · obtain ⟨g, hg⟩ := (Matches.of_all hm).group 1 rfl
      have hgm : TT.group g ∈ tokens := List.mem_of_getElem? hg
      have hgs := ttsSize_group_lt hgm
      rw [getGroup_eq _ hg]
      exact ih g (hwf.grp g hgm).2 (by omega)
    cases hf : findFirstOp tokens operators with
    | none => exact .error hp0'
    | some r =>
      obtain ⟨op, i, t⟩ := r
      obtain ⟨hi, ho, hcl⟩ := operator_nonbracket hf
      dsimp only
      refine .ite (fun _ => .error (hpos hi)) fun _ => ?_
      have hsp := ttsSize_split hi
      rw [ttSize_tok] at hsp
      cases hl : parseExpr fuel (tokens.take i) with
      | error e => exact (ih _ (hwf.take hi hcl) (by omega)).error_of hl
      | ok l =>
        cases hr : parseExpr fuel (tokens.drop (i + 1)) with
        | error e => exact (ih _ (hwf.drop_succ hi ho) (by omega)).error_of hr
        | ok r => exact .ite (fun _ => .ok trivial) fun _ => .ok trivial

end Delb.XPath
