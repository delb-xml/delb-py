import DelbModel.Lemmas.XPath.TokenTree
namespace Delb.XPath

/-- every open bracket is an opener satisfying `P`, with well-formed items behind it -/
def FramesOK (P : Token → Prop) : List (Token × List TT) → Prop
  | [] => True
  | (op, inner) :: frames => (isOpener op = true ∧ P op ∧ WF P inner.reverse) ∧ FramesOK P frames

theorem complement_of_opener {t : Token} (h : isOpener t = true) : ∃ c, complement t.type = some c := by
  simp [isOpener] at h
  rcases h with h | h <;> simp [h, complement]

theorem WF.single {P : Token → Prop} {t : Token} (h : P t) : WF P [.tok t] :=
  ⟨by simp [okSeq], by simpa using h, by simp, by simp⟩

theorem WF.items {P : Token → Prop} {op t : Token} {inner : List TT} (hop : isOpener op = true) (hopp : P op)
    (ht : isCloser t = true) (htp : P t) (hin : WF P inner.reverse) :
    WF P (if inner.isEmpty then [TT.tok op, TT.tok t] else [TT.tok op, TT.group inner.reverse, TT.tok t]) := by
  split
  · exact ⟨by simp [okSeq], by simp; exact ⟨hopp, htp⟩, by simp, by simp⟩
  · rename_i hne
    refine ⟨by simp [okSeq, hop, nextCloser, ht], ?_, ?_, ?_⟩
    · simp; exact ⟨hopp, htp⟩
    · simp; simpa using hne
    · simp; exact hin

/-- the levels are kept reversed -/
theorem WF.push {P : Token → Prop} {items inner : List TT} (hin : WF P inner.reverse) (hi : WF P items) :
    WF P (items.reverse ++ inner).reverse := by
  rw [List.reverse_append, List.reverse_reverse]
  exact hin.append hi

theorem groupAux_spec (n : Nat) (P : Token → Prop) (hP : ∀ t, P t → t.pos < n)
    (toks : List Token) (frames : List (Token × List TT)) (acc : List TT)
    (htoks : ∀ t ∈ toks, P t) (hf : FramesOK P frames) (hacc : WF P acc.reverse) :
    Sat (ErrOK n) (WF P) (groupAux toks frames acc) := by
  fun_induction groupAux toks frames acc with
  | case1 => exact .ok hacc
  | case2 => exact .error (Nat.le_of_lt (hP _ hf.1.2.1))
  -- an opening bracket
  | case3 t ts frames acc hop ih =>
    obtain ⟨htp, hts⟩ := List.forall_mem_cons.1 htoks
    exact ih hts ⟨⟨hop, htp, WF.nil P⟩, hf⟩ hacc
  -- a closing bracket: none is open, the open one has no complement, another one, the right one (at two depths)
  | case4 => exact .error (Nat.le_of_lt (hP _ (htoks _ List.mem_cons_self)))
  | case5 t ts acc _ _ op inner rest hc =>
    obtain ⟨c, hc'⟩ := complement_of_opener hf.1.1
    cases hc.symm.trans hc'
  | case6 => exact .error (Nat.le_of_lt (hP _ (htoks _ List.mem_cons_self)))
  | case7 t ts acc _ hcl op inner c _ _ items ih =>
    obtain ⟨htp, hts⟩ := List.forall_mem_cons.1 htoks
    exact ih hts trivial (hacc.push (WF.items hf.1.1 hf.1.2.1 hcl htp hf.1.2.2))
  | case8 t ts acc _ hcl op inner c _ _ items op' inner' rest ih =>
    obtain ⟨htp, hts⟩ := List.forall_mem_cons.1 htoks
    obtain ⟨⟨ho, hp, hi⟩, ⟨h1, h2, h3⟩, hrest⟩ := hf
    exact ih hts ⟨⟨h1, h2, h3.push (WF.items ho hp hcl htp hi)⟩, hrest⟩ hacc
  -- any other token (at two depths)
  | case9 t ts acc _ _ ih =>
    obtain ⟨htp, hts⟩ := List.forall_mem_cons.1 htoks
    exact ih hts hf (hacc.push (WF.single htp))
  | case10 t ts acc _ _ op inner rest ih =>
    obtain ⟨htp, hts⟩ := List.forall_mem_cons.1 htoks
    exact ih hts ⟨⟨hf.1.1, hf.1.2.1, hf.1.2.2.push (WF.single htp)⟩, hf.2⟩ hacc

theorem groupEnclosed_spec (n : Nat) (P : Token → Prop) (hP : ∀ t, P t → t.pos < n) (toks : List Token)
    (h : ∀ t ∈ toks, P t) : Sat (ErrOK n) (WF P) (groupEnclosed toks) :=
  groupAux_spec n P hP toks [] [] h trivial (WF.nil P)

end Delb.XPath
