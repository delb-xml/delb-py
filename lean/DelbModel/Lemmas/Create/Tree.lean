import DelbModel.Lemmas.Create.Eval
/-!
# C15: what `modifyAtP` changes, seen through the node-local information a locatable
step looks at; where `append_children` puts a node; edits at the same address
-/
namespace Delb.XPath
open Delb.Edit

/-- a node without its children: all a locatable step looks at -/
def shallow : PTree → PTree
  | .tag i ns n a _ => .tag i ns n a []
  | t => t

def shallowAt (root : PTree) (a : List Nat) : Option PTree := (getAtP root a).map shallow

def shallowOf (root : PTree) : XNode → Option PTree
  | .doc => none
  | .at p => shallowAt root p

theorem attrEqB_shallow (env : NsEnv) (t : Option PTree) (pfx : Option Str) (n v : Str) :
    attrEqB env (t.map shallow) pfx n v = attrEqB env t pfx n v := by
  cases t with
  | none => rfl
  | some t => cases t <;> rfl

theorem exprB_shallow (env : NsEnv) (t : Option PTree) : exprB env (t.map shallow) = exprB env t :=
  congrArg exprBy (funext fun p => funext fun n => funext fun v => attrEqB_shallow env t p n v)

theorem testB_shallow (env : NsEnv) (t : Option PTree) (nt : NodeTest) :
    testB env (t.map shallow) nt = testB env t nt := by
  cases nt with
  | name pfx l =>
    cases t with
    | none => rfl
    | some t => cases t <;> rfl
  | _ => rfl

theorem stepB_shallow (env : NsEnv) (s : Step) (t : Option PTree) :
    stepB env s (t.map shallow) = stepB env s t := by
  simp only [stepB, testB_shallow, exprB_shallow]

theorem stepB_nodeOf (env : NsEnv) (s : Step) (root : PTree) (m : XNode) :
    stepB env s (nodeOf root m) = stepB env s (shallowOf root m) := by
  cases m with
  | doc => rfl
  | «at» p => exact (stepB_shallow env s _).symm

theorem stepB_none (env : NsEnv) (s : Step) : stepB env s none = false := by
  unfold stepB
  cases s.test <;> rfl

def StrictlyBelow (q a : List Nat) : Prop := ∃ k t, a = q ++ k :: t

/-- `root'` differs from `root` only strictly below `q` (as far as locatable steps can see) -/
def Below (q : List Nat) (root root' : PTree) : Prop :=
  ∀ a, ¬ StrictlyBelow q a → shallowAt root' a = shallowAt root a

theorem Below.refl (q : List Nat) (root : PTree) : Below q root root := fun _ _ => rfl

theorem Below.trans {q : List Nat} {r1 r2 r3 : PTree} (h1 : Below q r1 r2) (h2 : Below q r2 r3) :
    Below q r1 r3 := fun a ha => (h2 a ha).trans (h1 a ha)

theorem Below.mono {q : List Nat} {i : Nat} {r1 r2 : PTree} (h : Below (q ++ [i]) r1 r2) : Below q r1 r2 := by
  intro a ha
  apply h a
  rintro ⟨k, t, rfl⟩
  exact ha ⟨i, k :: t, by simp⟩

theorem Below.child_shallow {p : List Nat} {j : Nat} {r1 r2 : PTree} (h : Below (p ++ [j]) r1 r2) (i : Nat) :
    shallowAt r2 (p ++ [i]) = shallowAt r1 (p ++ [i]) := by
  apply h
  rintro ⟨k, t, e⟩
  have := congrArg List.length e
  simp at this

theorem Below.kidsCount_eq {p : List Nat} {j : Nat} {r1 r2 : PTree} (h : Below (p ++ [j]) r1 r2) :
    kidsCount r2 p = kidsCount r1 p := by
  have key : ∀ i, i < kidsCount r2 p ↔ i < kidsCount r1 p := by
    intro i
    rw [lt_kidsCount_iff, lt_kidsCount_iff]
    have := h.child_shallow i
    unfold shallowAt at this
    cases h1 : getAtP r1 (p ++ [i]) <;> cases h2 : getAtP r2 (p ++ [i]) <;> simp_all
  apply Nat.le_antisymm
  · apply Nat.le_of_not_lt
    intro hlt
    exact Nat.lt_irrefl _ ((key _).1 hlt)
  · apply Nat.le_of_not_lt
    intro hlt
    exact Nat.lt_irrefl _ ((key _).2 hlt)

theorem Below.childNodes_eq {p : List Nat} {j : Nat} {r1 r2 : PTree} (h : Below (p ++ [j]) r1 r2) :
    childNodes r2 (.at p) = childNodes r1 (.at p) := by
  simp only [Delb.XPath.childNodes, h.kidsCount_eq]

theorem Below.root_shallow {r1 r2 : PTree} (h : Below [] r1 r2) : shallowAt r2 [] = shallowAt r1 [] := by
  apply h
  rintro ⟨k, t, e⟩
  simp at e

theorem modifyAtP_ok_induct {f : PTree → Except EditErr PTree} {P : List Nat → PTree → PTree → Prop}
    (nil : ∀ t t', f t = .ok t' → P [] t t')
    (cons : ∀ k p id ns nm a ks c c', ks[k]? = some c → modifyAtP f c p = .ok c' → P p c c' →
      P (k :: p) (.tag id ns nm a ks) (.tag id ns nm a (ks.set k c'))) :
    ∀ p t t', modifyAtP f t p = .ok t' → P p t t' := by
  intro p
  induction p with
  | nil => exact fun t t' h => nil t t' h
  | cons k p ih =>
    intro t t' h
    cases t with
    | tag id ns nm a ks =>
      simp only [modifyAtP] at h
      split at h
      · cases h
      · rename_i c hc
        split at h
        · cases h
        · rename_i c' hc'
          cases h
          exact cons k p id ns nm a ks c c' hc hc' (ih c c' hc')
    | text id s => cases h
    | comment id s => cases h
    | pi id t s => cases h

theorem modifyAtP_spec (f : PTree → Except EditErr PTree) : ∀ (p : List Nat) (root root1 : PTree),
    modifyAtP f root p = .ok root1 →
    ∃ t t', getAtP root p = some t ∧ f t = .ok t' ∧ getAtP root1 p = some t' ∧
      (shallow t' = shallow t → Below p root root1) := by
  refine modifyAtP_ok_induct (fun t t' h => ⟨t, t', rfl, h, rfl, fun hs a ha => ?_⟩) ?_
  · cases a with
    | nil => simp [shallowAt, getAtP, hs]
    | cons k t => exact absurd ⟨k, t, rfl⟩ ha
  · rintro k p id ns nm a ks c c' hc - ⟨t, t', h1, h2, h3, h4⟩
    have hk : k < ks.length := (List.getElem?_eq_some_iff.1 hc).1
    refine ⟨t, t', by simp [getAtP, hc, h1], h2, by simp [getAtP, hk, h3], fun hs b hb => ?_⟩
    cases b with
    | nil => rfl
    | cons j b' =>
      by_cases hj : j = k
      · subst hj
        have hb' : ¬ StrictlyBelow p b' := fun ⟨x, t, e⟩ => hb ⟨x, t, by rw [e]; rfl⟩
        have e1 : (ks.set j c')[j]? = some c' := by simp [hk]
        simp only [shallowAt, getAtP, e1, hc]
        exact h4 hs b' hb'
      · have : (ks.set k c')[j]? = ks[j]? := List.getElem?_set_ne (Ne.symm hj)
        simp [shallowAt, getAtP, this]

def tagOrText (t : PTree) : Bool := t.isTag || t.isText

theorem appendIndex_go_spec : ∀ (ks : List PTree) (i : Nat) (best : Option Nat),
    ((∀ x ∈ ks, tagOrText x = false) ∧ appendIndex.go i best ks = best) ∨
    (∃ j x, ks[j]? = some x ∧ tagOrText x = true ∧ (∀ y ∈ ks.drop (j + 1), tagOrText y = false) ∧
      appendIndex.go i best ks = some (i + j + 1)) := by
  intro ks
  induction ks with
  | nil => exact fun i best => .inl ⟨fun _ h => (nomatch h), rfl⟩
  | cons k rest ih =>
    intro i best
    rw [appendIndex.go]
    rcases ih (i + 1) (if k.isTag || k.isText then some (i + 1) else best) with ⟨h1, h2⟩ | ⟨j, x, h1, h2, h3, h4⟩
    · cases hk : tagOrText k with
      | true => exact .inr ⟨0, k, rfl, hk, h1, h2.trans (if_pos hk)⟩
      | false => exact .inl ⟨List.forall_mem_cons.2 ⟨hk, h1⟩, h2.trans (if_neg (ne_true_of_eq_false hk))⟩
    · exact .inr ⟨j + 1, x, h1, h2, h3, by rw [h4, Nat.add_assoc i 1 j, Nat.add_comm 1 j]⟩

/-- `append_children` inserts directly behind the last tag or text child, at the very end when there is none -/
theorem appendIndex_spec (ks : List PTree) :
    appendIndex ks ≤ ks.length ∧
    (∀ y ∈ ks.drop (appendIndex ks), y.isTag = false ∧ y.isText = false) ∧
    (appendIndex ks = ks.length ∨
      ∃ x, 0 < appendIndex ks ∧ ks[appendIndex ks - 1]? = some x ∧ (x.isTag || x.isText) = true) := by
  unfold appendIndex
  rcases appendIndex_go_spec ks 0 none with ⟨_, h2⟩ | ⟨j, x, h1, h2, h3, h4⟩
  · rw [h2, Option.getD_none, List.drop_length]
    exact ⟨Nat.le_refl _, fun _ hy => (nomatch hy), .inl rfl⟩
  · rw [h4, Nat.zero_add, Option.getD_some]
    exact ⟨(List.getElem?_eq_some_iff.1 h1).1, fun y hy => Bool.or_eq_false_iff.1 (h3 y hy),
      .inr ⟨x, Nat.succ_pos j, h1, h2⟩⟩

theorem appendIndex_le (ks : List PTree) : appendIndex ks ≤ ks.length := (appendIndex_spec ks).1

theorem insertKid_spec (i : Nat) (new t t' : PTree) (h : insertKid i new t = .ok t') :
    ∃ id ns n a ks, t = .tag id ns n a ks ∧ i ≤ ks.length ∧ t' = .tag id ns n a (ks.take i ++ new :: ks.drop i) := by
  cases t with
  | tag id ns n a ks =>
    simp only [insertKid] at h
    split at h
    · rename_i hle
      simp only [Except.ok.injEq] at h
      exact ⟨id, ns, n, a, ks, rfl, hle, h.symm⟩
    · cases h
  | text id s => simp [insertKid] at h
  | comment id s => simp [insertKid] at h
  | pi id t s => simp [insertKid] at h

theorem getElem?_insert {α} (ks : List α) (i : Nat) (x : α) (hi : i ≤ ks.length) :
    (ks.take i ++ x :: ks.drop i)[i]? = some x :=
  (eq_set (y := x) rfl rfl (List.length_take_of_le hi)).2

theorem set_insert {α} (ks : List α) (i : Nat) (x y : α) (hi : i ≤ ks.length) :
    (ks.take i ++ x :: ks.drop i).set i y = ks.take i ++ y :: ks.drop i :=
  (eq_set rfl rfl (List.length_take_of_le hi)).1.symm

theorem mem_of_getElem?_insert {α} {A B : List α} {x y : α} {j : Nat} (h : (A ++ x :: B)[j]? = some y)
    (hj : j ≠ A.length) : y ∈ A ∨ y ∈ B := by
  rcases Nat.lt_or_ge j A.length with hlt | hge
  · rw [List.getElem?_append_left hlt] at h
    exact .inl (List.mem_of_getElem? h)
  · rw [List.getElem?_append_right hge] at h
    obtain ⟨k, hk⟩ := Nat.exists_eq_succ_of_ne_zero (Nat.sub_ne_zero_of_lt (Nat.lt_of_le_of_ne hge hj.symm))
    rw [hk, List.getElem?_cons_succ] at h
    exact .inr (List.mem_of_getElem? h)

theorem getAtP_inserted {root : PTree} {p : List Nat} {id : Nat} {ns nm : String} {a : List Attr} {ks : List PTree}
    {i : Nat} {new : PTree} (h : getAtP root p = some (.tag id ns nm a (ks.take i ++ new :: ks.drop i)))
    (hi : i ≤ ks.length) : getAtP root (p ++ [i]) = some new := by
  rw [getAtP_snoc _ _ _ _ h]
  exact getElem?_insert ks i new hi

theorem appendChildAt_spec (root root1 : PTree) (p : List Nat) (new : PTree)
    (h : appendChildAt root p new = .ok root1) :
    ∃ id ns n a ks, getAtP root p = some (.tag id ns n a ks) ∧
      getAtP root1 p = some (.tag id ns n a (ks.take (appendIndex ks) ++ new :: ks.drop (appendIndex ks))) ∧
      Below p root root1 := by
  obtain ⟨t, t', h1, h2, h3, h4⟩ := modifyAtP_spec _ p root root1 h
  obtain ⟨id, ns, n, a, ks, rfl, _, rfl⟩ := insertKid_spec _ _ _ _ h2
  exact ⟨id, ns, n, a, ks, h1, h3, h4 rfl⟩

theorem modifyAtP_congr_at (f g : PTree → Except EditErr PTree) {p : List Nat} {root t : PTree}
    (hg : getAtP root p = some t) (hfg : f t = g t) : modifyAtP f root p = modifyAtP g root p := by
  induction nodeAt_of_get hg with
  | nil t => simpa only [modifyAtP] using hfg
  | cons hc h ih => simp only [modifyAtP, hc, ih h.get hfg]

theorem modifyAtP_comp (f g : PTree → Except EditErr PTree) (p : List Nat) : ∀ (q : List Nat) (root root2 : PTree),
    modifyAtP f root q = .ok root2 →
    modifyAtP g root2 (q ++ p) =
      modifyAtP (fun t => match f t with
        | .ok t' => modifyAtP g t' p
        | .error e => .error e) root q := by
  refine modifyAtP_ok_induct (fun t t' h => by simp only [List.nil_append, modifyAtP, h]) ?_
  intro k q id ns nm a ks c c' hc _ ih
  have e1 : (ks.set k c')[k]? = some c' := by simp [(List.getElem?_eq_some_iff.1 hc).1]
  simp only [List.cons_append, modifyAtP, e1, hc, ih]
  split <;> simp [List.set_set]

theorem appendChildAt_fill {root root1 root2 : PTree} {p : List Nat} {id n : Nat} {ns nm ns' nm' : String}
    {a a' : List Attr} {ks : List PTree} {x : PTree} (hg : getAtP root p = some (.tag id ns nm a ks))
    (h1 : appendChildAt root p (.tag n ns' nm' a' []) = .ok root1)
    (h2 : appendChildAt root1 (p ++ [appendIndex ks]) x = .ok root2) :
    appendChildAt root p (.tag n ns' nm' a' [x]) = .ok root2 := by
  unfold appendChildAt at h1 h2 ⊢
  rw [← h2, modifyAtP_comp _ _ [appendIndex ks] p root root1 h1]
  apply modifyAtP_congr_at _ _ hg
  have hi := appendIndex_le ks
  simp only [insertKid, PTree.kids, hi, if_true, modifyAtP, getElem?_insert _ _ _ hi, set_insert _ _ _ _ hi]
  rfl

end Delb.XPath
