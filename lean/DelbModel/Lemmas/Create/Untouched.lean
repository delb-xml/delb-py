import DelbModel.Model.Clone
import DelbModel.Lemmas.Create.Tree
/-!
# C15: deleting the nodes with fresh identities undoes an insertion of such a node

`removeNew` is defined next to the property; the lemmas here are stated for any pair of functions
satisfying its defining equations.
-/
namespace Delb.XPath
open Delb.Edit

structure IsRemoveNew (n : Nat) (f : PTree → PTree) (g : List PTree → List PTree) : Prop where
  tag : ∀ i ns name a ks, f (.tag i ns name a ks) = .tag i ns name a (g ks)
  text : ∀ i s, f (.text i s) = .text i s
  comment : ∀ i s, f (.comment i s) = .comment i s
  pi : ∀ i t s, f (.pi i t s) = .pi i t s
  nil : g [] = []
  cons : ∀ k ks, g (k :: ks) = if k.id ≥ n then g ks else f k :: g ks

namespace IsRemoveNew
variable {n : Nat} {f : PTree → PTree} {g : List PTree → List PTree}

theorem g_append (H : IsRemoveNew n f g) (A B : List PTree) : g (A ++ B) = g A ++ g B := by
  induction A with
  | nil => simp [H.nil]
  | cons k ks ih =>
    simp only [List.cons_append, H.cons, ih]
    split <;> simp

theorem id_mem_idsOf (t : PTree) : t.id ∈ Clone.idsOf t := by
  cases t <;> simp [Clone.idsOf, PTree.id]

mutual
  theorem f_id (H : IsRemoveNew n f g) : ∀ t : PTree, (∀ i ∈ Clone.idsOf t, i < n) → f t = t
    | .tag i ns nm a ks, h => by
      rw [H.tag, g_id H ks (fun j hj => h j (by simp [Clone.idsOf, hj]))]
    | .text i s, _ => H.text i s
    | .comment i s, _ => H.comment i s
    | .pi i t s, _ => H.pi i t s
  theorem g_id (H : IsRemoveNew n f g) : ∀ ks : List PTree, (∀ i ∈ Clone.idsOfList ks, i < n) → g ks = ks
    | [], _ => H.nil
    | k :: ks, h => by
      have hk : ¬ k.id ≥ n := by
        have := h k.id (by simp [Clone.idsOfList, id_mem_idsOf])
        omega
      rw [H.cons, if_neg hk, f_id H k (fun j hj => h j (by simp [Clone.idsOfList, hj])),
        g_id H ks (fun j hj => h j (by simp [Clone.idsOfList, hj]))]
end

theorem g_set (H : IsRemoveNew n f g) (c c' : PTree) (hf : f c' = f c) (hid : c'.id = c.id)
    (ks : List PTree) (k : Nat) (h : ks[k]? = some c) : g (ks.set k c') = g ks := by
  obtain ⟨A, B, rfl, rfl⟩ := getElem?_split h
  rw [List.set_append_right _ _ (Nat.le_refl _), Nat.sub_self, List.set_cons_zero, H.g_append, H.g_append, H.cons,
    H.cons, hf, hid]

theorem f_insertKid (H : IsRemoveNew n f g) (i : Nat) (new t t' : PTree) (hn : new.id ≥ n)
    (h : insertKid i new t = .ok t') : f t' = f t ∧ t'.id = t.id := by
  obtain ⟨id, ns, nm, a, ks, rfl, _, rfl⟩ := insertKid_spec i new t t' h
  refine ⟨?_, rfl⟩
  rw [H.tag, H.tag, H.g_append, H.cons, if_pos hn, ← H.g_append, List.take_append_drop]

theorem f_modifyAtP (H : IsRemoveNew n f g) (f0 : PTree → Except EditErr PTree)
    (h0 : ∀ t t', f0 t = .ok t' → f t' = f t ∧ t'.id = t.id) :
    ∀ (p : List Nat) (t t' : PTree), modifyAtP f0 t p = .ok t' → f t' = f t ∧ t'.id = t.id := by
  refine modifyAtP_ok_induct h0 ?_
  rintro k p id ns nm a ks c c' hc - ⟨e1, e2⟩
  exact ⟨by rw [H.tag, H.tag, H.g_set c c' e1 e2 ks k hc], rfl⟩

end IsRemoveNew

end Delb.XPath
