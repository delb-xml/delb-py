import DelbModel.Lemmas.Create.Defs
import DelbModel.Lemmas.XPathEval
/-!
# C15: closed forms of the evaluation of unambiguously locatable steps
-/
namespace Delb.XPath
open Delb.Edit

theorem exprLocatable_induct {P : Expr → Prop}
    (and : ∀ l r, P l → P r → P (.binop "and" l r))
    (attr_lit : ∀ p n v, P (.binop "=" (.attrVal p n) (.str v)))
    (lit_attr : ∀ v p n, P (.binop "=" (.str v) (.attrVal p n))) :
    ∀ e, exprLocatable e = true → P e := by
  intro e
  fun_induction exprLocatable e with
  | case1 op l r h ihl ihr =>
    intro hl
    rw [Bool.and_eq_true] at hl
    exact eq_of_beq h ▸ and l r (ihl hl.1) (ihr hl.2)
  | case2 op _ h p n v => exact fun _ => eq_of_beq h ▸ attr_lit p n v
  | case3 op _ h v p n => exact fun _ => eq_of_beq h ▸ lit_attr v p n
  | case4 => exact fun h => nomatch h
  | case5 => exact fun h => nomatch h
  | case6 => exact fun h => nomatch h

/-- the namespace a query gives to an attribute prefix -/
def qAttrNs (env : NsEnv) (pfx : Option Str) : String :=
  (pfx.bind (fun p => Ser.dget env (showS p))).getD ""

/-- the value of `@pfx:n = v` at a node -/
def attrEqB (env : NsEnv) (t : Option PTree) (pfx : Option Str) (n v : Str) : Bool :=
  match t with
  | some (.tag _ _ _ attrs _) => (lookupAttrVal attrs (qAttrNs env pfx) (showS n)).getD [] == v
  | _ => false

/-- the value of a locatable predicate, given the value `f` of its attribute comparisons -/
def exprBy (f : Option Str → Str → Str → Bool) : Expr → Bool
  | .binop op l r =>
    if op == "and" then exprBy f l && exprBy f r
    else if op == "=" then
      (match l, r with
       | .attrVal p n, .str v => f p n v
       | .str v, .attrVal p n => f p n v
       | _, _ => false)
    else false
  | _ => false

/-- the value of a locatable predicate at a node -/
def exprB (env : NsEnv) (t : Option PTree) : Expr → Bool := exprBy (attrEqB env t)

/-- the Python object the mechanism computes for `@pfx:n` at a node -/
def attrValOf (env : NsEnv) (t : Option PTree) (pfx : Option Str) (n : Str) : Val :=
  match t with
  | some (.tag _ _ _ attrs _) => .s ((lookupAttrVal attrs (qAttrNs env pfx) (showS n)).getD [])
  | _ => .none

theorem exprPrefixesBound_some {env : NsEnv} {p n : Str} (h : exprPrefixesBound env (.attrVal (some p) n) = true) :
    p ≠ [] ∧ (Ser.dget env (showS p)).isSome = true := by
  simpa [exprPrefixesBound] using h

theorem evalExpr_attrVal (root : PTree) (env : NsEnv) (c : Ctx) (pfx : Option Str) (n : Str)
    (h : exprPrefixesBound env (.attrVal pfx n) = true) :
    evalExpr root env c (.attrVal pfx n) = .ok (attrValOf env (nodeOf root c.node) pfx n) := by
  have hc : checkPrefix env pfx = .ok () := by
    cases pfx with
    | none => rfl
    | some p => exact if_pos (exprPrefixesBound_some h).2
  simp only [evalExpr, hc, attrValOf, qAttrNs]
  cases nodeOf root c.node with
  | none => rfl
  | some t => cases t <;> rfl

theorem pyEq_attrValOf (env : NsEnv) (t : Option PTree) (pfx : Option Str) (n v : Str) :
    pyEq (attrValOf env t pfx n) (.s v) = attrEqB env t pfx n v := by
  unfold attrValOf attrEqB
  split
  · exact pyEq_s _ v
  · exact pyEq_none_s v

theorem pyEq_lit_attrValOf (env : NsEnv) (t : Option PTree) (pfx : Option Str) (n v : Str) :
    pyEq (.s v) (attrValOf env t pfx n) = attrEqB env t pfx n v := by
  unfold attrValOf attrEqB
  split
  · exact (pyEq_s v _).trans BEq.comm
  · exact pyEq_s_none v

theorem asInt_attrValOf (env : NsEnv) (t : Option PTree) (pfx : Option Str) (n : Str) :
    asInt (attrValOf env t pfx n) = none := by
  unfold attrValOf; split <;> rfl

theorem derivedAttrs_and (l r : Expr) : derivedAttrs (.binop "and" l r) = derivedAttrs l ++ derivedAttrs r := rfl

theorem derivedAttrs_attr_lit (p : Option Str) (n v : Str) :
    derivedAttrs (.binop "=" (.attrVal p n) (.str v)) = [(p.getD [], n, v)] := rfl

theorem derivedAttrs_lit_attr (p : Option Str) (n v : Str) :
    derivedAttrs (.binop "=" (.str v) (.attrVal p n)) = [(p.getD [], n, v)] := rfl

theorem exprB_and (env : NsEnv) (t : Option PTree) (l r : Expr) :
    exprB env t (.binop "and" l r) = (exprB env t l && exprB env t r) := rfl

theorem exprB_attr_lit (env : NsEnv) (t : Option PTree) (p : Option Str) (n v : Str) :
    exprB env t (.binop "=" (.attrVal p n) (.str v)) = attrEqB env t p n v := rfl

theorem exprB_lit_attr (env : NsEnv) (t : Option PTree) (p : Option Str) (n v : Str) :
    exprB env t (.binop "=" (.str v) (.attrVal p n)) = attrEqB env t p n v := rfl

theorem evalExpr_locatable (root : PTree) (env : NsEnv) (c : Ctx) : ∀ (e : Expr),
    exprLocatable e = true → exprPrefixesBound env e = true →
    evalExpr root env c e = .ok (.b (exprB env (nodeOf root c.node) e)) := by
  refine exprLocatable_induct (fun l r ihl ihr hp => ?_) (fun p n v hp => ?_) (fun v p n hp => ?_)
  · rw [exprPrefixesBound, Bool.and_eq_true] at hp
    rw [evalExpr, ihl hp.1, ihr hp.2, exprB_and]
    rfl
  · rw [exprPrefixesBound, Bool.and_eq_true] at hp
    rw [evalExpr, evalExpr_attrVal root env c p n hp.1, exprB_attr_lit, ← pyEq_attrValOf]
    exact applyOp_eq _ _
  · rw [exprPrefixesBound, Bool.and_eq_true] at hp
    rw [evalExpr, evalExpr_attrVal root env c p n hp.2, exprB_lit_attr, ← pyEq_lit_attrValOf]
    exact applyOp_eq _ _

theorem filterPred_closed (root : PTree) (env : NsEnv) (pred : Expr) (size : Nat) (f : XNode → Bool)
    (l : List XNode) (pos : Nat)
    (h : ∀ n ∈ l, ∀ pos, evalExpr root env { node := n, position := pos, size := size } pred = .ok (.b (f n))) :
    filterPred root env pred size pos l = .ok (l.filter f) := by
  induction l generalizing pos with
  | nil => simp [filterPred]
  | cons n rest ih =>
    have ih' := ih (pos + 1) (fun m hm => h m (List.mem_cons_of_mem _ hm))
    simp only [filterPred, h n (List.mem_cons_self ..) pos, ih', truthy, List.filter_cons]
    rfl

theorem applyPreds_closed (root : PTree) (env : NsEnv) (ps : List Expr) (l : List XNode)
    (hl : ps.all exprLocatable = true) (hb : ps.all (exprPrefixesBound env) = true) :
    applyPreds root env ps l = .ok (l.filter (fun n => ps.all (exprB env (nodeOf root n)))) := by
  induction ps generalizing l with
  | nil =>
    simp only [applyPreds, List.all_nil]
    rw [List.filter_eq_self.2 (fun _ _ => rfl)]
  | cons p ps ih =>
    simp only [List.all_cons, Bool.and_eq_true] at hl hb
    rw [applyPreds_cons,
      filterPred_closed root env p l.length (fun n => exprB env (nodeOf root n) p) l 1
        (fun n _ pos => evalExpr_locatable root env _ p hl.1 hb.1)]
    simp only [ih _ hl.2 hb.2, List.filter_filter, List.all_cons]
    congr 1
    apply List.filter_congr
    intro n _
    exact Bool.and_comm _ _

/-- the key a name test's prefix is looked up under; no prefix: the default namespace -/
def pfxKey : Option Str → String
  | some p => showS p
  | none => ""

/-- the value of a name test at a node -/
def testB (env : NsEnv) (t : Option PTree) : NodeTest → Bool
  | .name pfx local_ =>
    match t with
    | some (.tag _ ns name _ _) => ns == (Ser.dget env (pfxKey pfx)).getD "" && name == showS local_
    | _ => false
  | _ => false

theorem nodeTest_name (root : PTree) (env : NsEnv) (pfx : Option Str) (local_ : Str) (n : XNode)
    (h : testPrefixBound env (.name pfx local_) = true) :
    nodeTest root env (.name pfx local_) n = .ok (testB env (nodeOf root n) (.name pfx local_)) := by
  have hc : checkPrefix env pfx = .ok () := by
    cases pfx with
    | none => rfl
    | some p => exact if_pos h
  rw [nodeTest_eq root env (.name pfx local_) n hc (fun _ e => nomatch e)]
  simp only [docTyped, Bool.false_or, testDenote, testB]
  cases nodeOf root n with
  | none => rfl
  | some t => cases t <;> cases pfx <;> rfl

theorem filterTest_closed (root : PTree) (env : NsEnv) (t : NodeTest) (f : XNode → Bool) (l : List XNode)
    (h : ∀ n ∈ l, nodeTest root env t n = .ok (f n)) :
    filterTest root env t l = .ok (l.filter f) := by
  induction l with
  | nil => simp [filterTest]
  | cons n rest ih =>
    have ih' := ih (fun m hm => h m (List.mem_cons_of_mem _ hm))
    simp only [filterTest, h n (List.mem_cons_self ..), ih', List.filter_cons]

/-- what the closed forms need of a step -/
structure StepOk (env : NsEnv) (s : Step) : Prop where
  loc : stepLocatable s = true
  bound : stepPrefixesBound env s = true

/-- whether a node passes a locatable step -/
def stepB (env : NsEnv) (s : Step) (t : Option PTree) : Bool :=
  testB env t s.test && s.preds.all (exprB env t)

def childNodes (root : PTree) : XNode → List XNode
  | .doc => [.at []]
  | .at p => (List.range (kidsCount root p)).map (fun i => .at (p ++ [i]))

theorem axisNodes_child (root : PTree) (n : XNode) : axisNodes root "child" n = .ok (childNodes root n) := by
  cases n <;> rfl

theorem childNodes_nodup (root : PTree) (n : XNode) : (childNodes root n).Nodup :=
  axis_nodup root "child" n _ (axisNodes_child root n)

theorem stepLocatable_axis {s : Step} (h : stepLocatable s = true) : s.axis = "child" := by
  simp only [stepLocatable, Bool.and_eq_true, beq_iff_eq] at h
  exact h.1.1

theorem stepLocatable_test {s : Step} (h : stepLocatable s = true) : ∃ pfx l, s.test = .name pfx l := by
  simp only [stepLocatable, Bool.and_eq_true] at h
  cases ht : s.test <;> simp [ht, isNameTest] at h
  exact ⟨_, _, rfl⟩

theorem evalStepAt_closed (root : PTree) (env : NsEnv) (s : Step) (n : XNode) (h : StepOk env s) :
    evalStepAt root env s n = .ok ((childNodes root n).filter (fun m => stepB env s (nodeOf root m))) := by
  obtain ⟨pfx, l, ht⟩ := stepLocatable_test h.loc
  have hloc := h.loc
  have hb := h.bound
  simp only [stepLocatable, stepPrefixesBound, Bool.and_eq_true, ht] at hloc hb
  have h1 : filterTest root env s.test (childNodes root n) =
      .ok ((childNodes root n).filter (fun m => testB env (nodeOf root m) s.test)) := by
    apply filterTest_closed
    intro m _
    rw [ht]
    exact nodeTest_name root env pfx l m hb.1
  simp only [evalStepAt, stepLocatable_axis h.loc, axisNodes_child, h1, applyPreds_closed root env s.preds _ hloc.2 hb.2,
    List.filter_filter, stepB]
  congr 1
  apply List.filter_congr
  intro m _
  exact Bool.and_comm _ _

theorem addNew_append_of_nodup (acc l : List XNode) (h : (acc ++ l).Nodup) : addNew acc l = acc ++ l := by
  induction l generalizing acc with
  | nil => simp [addNew]
  | cons n rest ih =>
    have hn : n ∉ acc := by
      intro hm
      rw [List.nodup_append] at h
      exact h.2.2 n hm n (List.mem_cons_self ..) rfl
    have hc : acc.contains n = false := by simpa using hn
    simp only [addNew, hc, Bool.false_eq_true, if_false]
    rw [ih (acc ++ [n]) (by simpa using h)]
    simp

theorem evalStep_single (root : PTree) (env : NsEnv) (s : Step) (n : XNode) (h : StepOk env s) :
    evalStep root env s [] [n] = .ok ((childNodes root n).filter (fun m => stepB env s (nodeOf root m))) := by
  simp only [evalStep, evalStepAt_closed root env s n h]
  rw [addNew_append_of_nodup]
  · simp
  · simpa using (List.filter_sublist).nodup (childNodes_nodup root n)

end Delb.XPath
