import DelbModel.Lemmas.Create.Main
/-!
# C15: the call as a whole

The prefixes `fetch_or_create_by_xpath` checks before it creates anything are the ones the query looks at, so a call
that succeeds had them bound (`stepPrefixesBound_of_checked`); with them bound the loop invariant `createSteps_selected`
gives that the expression selects the returned node (`fetchOrCreate_selected_of`).
-/
namespace Delb.XPath
open Delb.Edit

theorem consistentStep_of_in (env : NsEnv) (s : Step) (h : consistentStepIn env s) :
    ∀ a b, a ∈ stepAttrs s → b ∈ stepAttrs s → a.1 = b.1 → a.2.1 = b.2.1 → a.2.2 = b.2.2 :=
  fun a b ha hb h1 h2 => h a b ha hb (by rw [h1]) h2

theorem attrPrefixBound_of_checked (env : NsEnv) (p : Option Str) (n : Str)
    (hne : exprNoEmptyPrefix (.attrVal p n) = true)
    (ha : (!(p.getD []).isEmpty && (Ser.dget env (showS (p.getD []))).isNone) = false) :
    exprPrefixesBound env (.attrVal p n) = true := by
  cases p with
  | none => rfl
  | some q =>
    have hq : q.isEmpty = false := by simpa [exprNoEmptyPrefix] using hne
    simp only [Option.getD_some, hq, Bool.not_false, Bool.true_and] at ha
    cases hd : Ser.dget env (showS q) <;> simp_all [exprPrefixesBound]

theorem exprPrefixesBound_of_checked (env : NsEnv) : ∀ (e : Expr), exprLocatable e = true →
    exprNoEmptyPrefix e = true →
    (∀ t ∈ derivedAttrs e, (!t.1.isEmpty && (Ser.dget env (showS t.1)).isNone) = false) →
    exprPrefixesBound env e = true := by
  refine exprLocatable_induct (fun l r ihl ihr hne ha => ?_) (fun p n v hne ha => ?_) (fun v p n hne ha => ?_)
  · rw [exprNoEmptyPrefix, Bool.and_eq_true] at hne
    rw [derivedAttrs_and] at ha
    rw [exprPrefixesBound, Bool.and_eq_true]
    exact ⟨ihl hne.1 (fun t ht => ha t (List.mem_append_left _ ht)),
      ihr hne.2 (fun t ht => ha t (List.mem_append_right _ ht))⟩
  · rw [exprNoEmptyPrefix, Bool.and_eq_true] at hne
    rw [derivedAttrs_attr_lit] at ha
    rw [exprPrefixesBound, attrPrefixBound_of_checked env p n hne.1 (ha _ (List.mem_singleton.2 rfl))]
    rfl
  · rw [exprNoEmptyPrefix, Bool.and_eq_true] at hne
    rw [derivedAttrs_lit_attr] at ha
    rw [exprPrefixesBound, attrPrefixBound_of_checked env p n hne.2 (ha _ (List.mem_singleton.2 rfl))]
    rfl

theorem stepPrefixesBound_of_checked (env : NsEnv) (s : Step) (hl : stepLocatable s = true)
    (hne : stepNoEmptyPrefix s = true) (hu : unboundPrefixes env s = []) : stepPrefixesBound env s = true := by
  have hu' := List.filter_eq_nil_iff.1 hu
  rw [stepLocatable, Bool.and_eq_true, List.all_eq_true] at hl
  rw [stepNoEmptyPrefix, Bool.and_eq_true, List.all_eq_true] at hne
  rw [stepPrefixesBound, Bool.and_eq_true, List.all_eq_true]
  constructor
  · cases ht : s.test with
    | name pfx l =>
      cases pfx with
      | none => rfl
      | some q =>
        have hq := hu' q (List.mem_append_left _ (by rw [ht]; exact List.mem_singleton.2 rfl))
        have hq' : q.isEmpty = false := by simpa [ht] using hne.1
        rw [hq', Bool.not_false, Bool.true_and, Bool.not_eq_true] at hq
        rw [testPrefixBound]
        cases hd : Ser.dget env (showS q) with
        | none => rw [hd] at hq; cases hq
        | some _ => rfl
    | _ => simp [ht, isNameTest] at hl
  · intro e he
    apply exprPrefixesBound_of_checked env e (hl.2 e he) (hne.2 e he)
    intro t hte
    exact Bool.not_eq_true _ ▸
      hu' t.1 (List.mem_append_right _ (List.mem_map.2 ⟨t, List.mem_flatMap.2 ⟨e, he, hte⟩, rfl⟩))

theorem flatMap_unboundPrefixes_nil {env : NsEnv} {steps : List Step}
    (h : steps.flatMap (unboundPrefixes env) = []) : ∀ s ∈ steps, unboundPrefixes env s = [] := by
  simpa [List.flatMap_eq_nil_iff] using h

/-- The prefixes need to be bound only when the call gets as far as creating (`hp`): `c15_created_is_selected_partial`
    assumes them bound, `c15_created_is_selected_noempty_partial` derives that from the check that precedes creating. -/
theorem fetchOrCreate_selected_of (root root' : PTree) (n n' : Nat) (env : NsEnv) (ctx : List Nat)
    (p : Path) (r : XNode)
    (hp : p.steps.flatMap (unboundPrefixes env) = [] → ∀ s ∈ p.steps, stepPrefixesBound env s = true)
    (hc : ∀ s ∈ p.steps, consistentStepIn env s)
    (h : fetchOrCreate root n env env ctx [p] = .ok (root', r, n')) :
    evaluate root' env ctx [p] = .ok [r] := by
  obtain ⟨hl, ⟨r0, hE, e⟩ | ⟨p', e, hE, hU, h⟩⟩ := fetchOrCreate_ok_cases h
  · cases e
    exact hE
  · cases e
    have hall : ∀ s ∈ p.steps, StepOk env s ∧ consistentStepIn env s :=
      fun s hs => ⟨⟨locatable_single.1 hl s hs, hp hU s hs⟩, hc s hs⟩
    obtain ⟨h1, _, h3⟩ := createSteps_selected env p.steps root n _ (root', r, n') h hall
    rw [startOf] at h1 h3
    have hr : r ≠ .doc := by
      intro hr
      obtain ⟨e1, e2⟩ := h3 hr
      simp [evaluate, evalPaths, evalPath, e1, e2, evalSteps] at hE
    have hcont : ([r] : List XNode).contains .doc = false := by
      simpa using fun e => hr e.symm
    simp only [evaluate, evalPaths, evalPath, h1, hcont, Bool.false_eq_true, if_false, addNew,
      List.contains_nil, List.nil_append]

end Delb.XPath
