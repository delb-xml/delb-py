import DelbModel.Lemmas.Create.NewNode
/-!
# C15: the loop of `_create_by_xpath` builds a branch the expression selects
-/
namespace Delb.XPath
open Delb.Edit

theorem kidsCount_of_getAtP {root : PTree} {p : List Nat} {t : PTree} (h : getAtP root p = some t) :
    kidsCount root p = t.kids.length := by
  simp [kidsCount, h]

theorem nodeOf_child {root : PTree} {p : List Nat} {t : PTree} (h : getAtP root p = some t) (j : Nat) :
    nodeOf root (.at (p ++ [j])) = t.kids[j]? := by
  simp [nodeOf, getAtP_append, h, getAtP_single]

/-- By `evalStep_single` both runs filter the children with `stepB`: the old children still fail (`hall`), so the
    filter over the new index range keeps the one index `i`. -/
theorem created_step (root root1 : PTree) (env : NsEnv) (s : Step) (p : List Nat) (new : PTree)
    (id : Nat) (ns nm : String) (a : List Attr) (ks : List PTree) (i : Nat)
    (hok : StepOk env s) (hold : evalStep root env s [] [.at p] = .ok [])
    (hg : getAtP root p = some (.tag id ns nm a ks)) (hi : i ≤ ks.length)
    (hg1 : getAtP root1 p = some (.tag id ns nm a (ks.take i ++ new :: ks.drop i)))
    (hnew : stepB env s (some new) = true) :
    evalStep root1 env s [] [.at p] = .ok [.at (p ++ [i])] := by
  rw [evalStep_single _ _ _ _ hok] at hold ⊢
  simp only [Except.ok.injEq, List.filter_eq_nil_iff] at hold
  have hall : ∀ y ∈ ks, stepB env s (some y) = false := by
    intro y hy
    obtain ⟨j, hj, rfl⟩ := List.getElem_of_mem hy
    have hm : XNode.at (p ++ [j]) ∈ childNodes root (.at p) := by
      simp only [childNodes, kidsCount_of_getAtP hg, PTree.kids, List.mem_map, List.mem_range]
      exact ⟨j, hj, rfl⟩
    have := hold _ hm
    rw [nodeOf_child hg] at this
    simpa [PTree.kids, hj] using this
  have hlen : (ks.take i).length = i := by rw [List.length_take]; exact Nat.min_eq_left hi
  congr 1
  simp only [childNodes, kidsCount_of_getAtP hg1, PTree.kids, List.filter_map]
  have hQ : ((fun m => stepB env s (nodeOf root1 m)) ∘ fun j => XNode.at (p ++ [j])) =
      fun j => stepB env s ((ks.take i ++ new :: ks.drop i)[j]?) := by
    funext j
    simp only [Function.comp, nodeOf_child hg1, PTree.kids]
  rw [hQ, filter_eq_singleton List.nodup_range (a := i)]
  · rfl
  · rw [List.mem_range, List.length_append, hlen]; exact Nat.lt_add_of_pos_right (Nat.succ_pos _)
  · rw [getElem?_insert _ _ _ hi]; exact hnew
  · intro j _ hji
    cases hy : (ks.take i ++ new :: ks.drop i)[j]? with
    | none => exact stepB_none env s
    | some y =>
      rcases mem_of_getElem?_insert hy (hlen.symm ▸ hji) with h | h
      · exact hall y (List.mem_of_mem_take h)
      · exact hall y (List.mem_of_mem_drop h)

/-- `Below` for a candidate of a step; below the root node anything may differ -/
def BelowX (root root' : PTree) : XNode → Prop
  | .doc => True
  | .at p => Below p root root'

theorem evalStep_single_congr (root root' : PTree) (env : NsEnv) (s : Step) (n : XNode) (hok : StepOk env s)
    (hc : childNodes root' n = childNodes root n)
    (hs : ∀ m ∈ childNodes root n, shallowOf root' m = shallowOf root m) :
    evalStep root' env s [] [n] = evalStep root env s [] [n] := by
  rw [evalStep_single _ _ _ _ hok, evalStep_single _ _ _ _ hok, hc]
  congr 1
  apply List.filter_congr
  intro m hm
  rw [stepB_nodeOf, stepB_nodeOf, hs m hm]

theorem evalStep_below (root root' : PTree) (env : NsEnv) (s : Step) (cur c : XNode) (hok : StepOk env s)
    (hc : c ∈ childNodes root cur) (hb : BelowX root root' c) :
    evalStep root' env s [] [cur] = evalStep root env s [] [cur] ∧ BelowX root root' cur ∧ c ≠ .doc := by
  cases cur with
  | doc =>
    simp only [childNodes, List.mem_singleton] at hc
    subst hc
    refine ⟨?_, trivial, by simp⟩
    apply evalStep_single_congr root root' env s .doc hok rfl
    intro m hm
    simp only [childNodes, List.mem_singleton] at hm
    subst hm
    exact Below.root_shallow hb
  | «at» p =>
    simp only [childNodes, List.mem_map, List.mem_range] at hc
    obtain ⟨j, _, rfl⟩ := hc
    refine ⟨?_, Below.mono hb, by simp⟩
    apply evalStep_single_congr root root' env s (.at p) hok (Below.childNodes_eq hb)
    intro m hm
    simp only [childNodes, List.mem_map, List.mem_range] at hm
    obtain ⟨i, _, rfl⟩ := hm
    exact Below.child_shallow hb i

theorem mem_of_evalStep_single {root : PTree} {env : NsEnv} {s : Step} {cur c : XNode} {l : List XNode}
    (hok : StepOk env s) (h : evalStep root env s [] [cur] = .ok l) (hc : c ∈ l) : c ∈ childNodes root cur := by
  rw [evalStep_single _ _ _ _ hok] at h
  simp only [Except.ok.injEq] at h
  subst h
  exact (List.mem_filter.1 hc).1

theorem createSteps_ok_induct {envC : NsEnv} {P : PTree → Nat → XNode → List Step → PTree × XNode × Nat → Prop}
    (nil : ∀ root n cur, P root n cur [] (root, cur, n))
    (found : ∀ root n cur s rest c res, evalStep root envC s [] [cur] = .ok [c] →
      createSteps envC root n c rest = .ok res → P root n c rest res → P root n cur (s :: rest) res)
    (made : ∀ root n p s rest new root1 id ns nm a ks res, evalStep root envC s [] [.at p] = .ok [] →
      newNodeFor envC n s = some new → appendChildAt root p new = .ok root1 →
      getAtP root p = some (.tag id ns nm a ks) →
      getAtP root1 p = some (.tag id ns nm a (ks.take (appendIndex ks) ++ new :: ks.drop (appendIndex ks))) →
      Below p root root1 →
      createSteps envC root1 (n + 1) (.at (p ++ [appendIndex ks])) rest = .ok res →
      P root1 (n + 1) (.at (p ++ [appendIndex ks])) rest res → P root n (.at p) (s :: rest) res) :
    ∀ steps root n cur res, createSteps envC root n cur steps = .ok res → P root n cur steps res := by
  intro steps
  induction steps with
  | nil =>
    intro root n cur res h
    cases h
    exact nil root n cur
  | cons s rest ih =>
    intro root n cur res h
    unfold createSteps at h
    split at h
    · cases h
    · rename_i hE
      split at h
      · cases h
      · rename_i p
        split at h
        · cases h
        · rename_i new hnn
          split at h
          · cases h
          · rename_i root1 hap
            obtain ⟨id, ns, nm, a, ks, hg, hg1, hb⟩ := appendChildAt_spec root root1 p new hap
            simp only [hg, PTree.kids] at h
            exact made root n p s rest new root1 id ns nm a ks res hE hnn hap hg hg1 hb h (ih _ _ _ _ h)
    · rename_i c hE
      exact found root n cur s rest c res hE h (ih _ _ _ _ h)
    · cases h

theorem createSteps_selected (env : NsEnv) : ∀ (steps : List Step) (root : PTree) (n : Nat) (cur : XNode)
    (res : PTree × XNode × Nat), createSteps env root n cur steps = .ok res →
    (∀ s ∈ steps, StepOk env s ∧ consistentStepIn env s) →
    evalSteps res.1 env steps [cur] = .ok [res.2.1] ∧ BelowX root res.1 cur ∧
      (res.2.1 = .doc → cur = .doc ∧ steps = []) := by
  refine createSteps_ok_induct ?_ ?_ ?_
  · intro root _ cur _
    refine ⟨rfl, ?_, fun h => ⟨h, rfl⟩⟩
    cases cur with
    | doc => trivial
    | «at» p => exact Below.refl p root
  · intro root _ cur s rest c res hE _ ih hall
    obtain ⟨hok, -⟩ := hall s List.mem_cons_self
    obtain ⟨h1, h2, h3⟩ := ih (fun x hx => hall x (List.mem_cons_of_mem _ hx))
    have hmem := mem_of_evalStep_single hok hE (List.mem_singleton.2 rfl)
    obtain ⟨e1, e2, e3⟩ := evalStep_below root res.1 env s cur c hok hmem h2
    refine ⟨?_, e2, fun hr => absurd (h3 hr).1 e3⟩
    simp only [evalSteps, e1, hE]
    exact h1
  · intro root n p s rest new root1 id ns nm a ks res hE hnn _ hg hg1 hb1 _ ih hall
    obtain ⟨hok, hcons⟩ := hall s List.mem_cons_self
    obtain ⟨h1, h2, h3⟩ := ih (fun x hx => hall x (List.mem_cons_of_mem _ hx))
    have hstep1 := created_step root root1 env s p new id ns nm a ks (appendIndex ks) hok hE hg (appendIndex_le ks) hg1
      (stepB_new env n s new hok hcons hnn)
    have hmem := mem_of_evalStep_single hok hstep1 (List.mem_singleton.2 rfl)
    obtain ⟨e1, e2, _⟩ := evalStep_below root1 res.1 env s (.at p) _ hok hmem h2
    refine ⟨?_, Below.trans hb1 e2, fun hr => nomatch (h3 hr).1⟩
    simp only [evalSteps, e1, hstep1]
    exact h1

/-- the node a path is evaluated from: the specification's `pathStart`, under the name the C15 statements use -/
def startOf (ctx : List Nat) (p : Path) : XNode := if p.absolute then .doc else .at ctx

theorem fetchOrCreate_ok_cases {root : PTree} {n : Nat} {envQ envC : NsEnv} {ctx : List Nat} {x : XExpr}
    {res : PTree × XNode × Nat} (h : fetchOrCreate root n envQ envC ctx x = .ok res) :
    locatable x = true ∧
    ((∃ r, evaluate root envQ ctx x = .ok [r] ∧ res = (root, r, n)) ∨
     (∃ p, x = [p] ∧ evaluate root envQ ctx x = .ok [] ∧ p.steps.flatMap (unboundPrefixes envC) = [] ∧
        createSteps envC root n (startOf ctx p) p.steps = .ok res)) := by
  unfold fetchOrCreate at h
  split at h
  · cases h
  · rename_i hl
    refine ⟨by simpa using hl, ?_⟩
    split at h
    · cases h
    · rename_i r hE
      cases h
      exact .inl ⟨r, hE, rfl⟩
    · cases h
    · rename_i hE
      split at h
      · rename_i p
        split at h
        · cases h
        · rename_i hU
          exact .inr ⟨p, rfl, hE, hU, h⟩
      · cases h

theorem locatable_single {p : Path} : locatable [p] = true ↔ ∀ s ∈ p.steps, stepLocatable s = true :=
  List.all_eq_true

theorem locatable_of_ok {root : PTree} {n : Nat} {envQ envC : NsEnv} {ctx : List Nat} {x : XExpr}
    {res : PTree × XNode × Nat} (h : fetchOrCreate root n envQ envC ctx x = .ok res) : locatable x = true :=
  (fetchOrCreate_ok_cases h).1

end Delb.XPath
