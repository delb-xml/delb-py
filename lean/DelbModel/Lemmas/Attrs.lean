import DelbModel.Model.Attrs
import DelbModel.Lemmas.AssocList
/-!
# C11: the attribute mapping

`keyOf` / `unkey` translate between canonical qualified names and Clark keys of the store;
`etreeKey c q = keyOf (canon c q)` and `absStore` is `unkey` on keys.  Store, cache and dictionary are association
lists (`Lemmas/AssocList.lean`); the store operations are the dictionary operations through `unkey` under `storeOk`.

The views: `ViewsOk` speaks of a state only through three lookup functions; `LookOk` is that part as a predicate on
functions, with one lemma per kind of pointwise update (`attach`, `detach`, `setDetached`, `move`), and each operation
(`getItem`, `setItem`, `delItem`, `viewSetValue`, `renameView`) is shown to be such an update.  The mixin methods are
compositions of three of them (`Closed`).
-/
namespace Delb.Attrs

/-- the Clark key of a canonical qualified name -/
def keyOf (q : QName) : Key := if q.1 = "" then (none, q.2) else (some q.1, q.2)

/-- the qualified name a Clark key denotes in the specification dictionary -/
def unkey (k : Key) : QName :=
  match k with
  | (some ns, n) => (ns, n)
  | (Option.none, n) => ("", n)

theorem etreeKey_eq (c : Ctx) (q : QName) : etreeKey c q = keyOf (canon c q) := by
  obtain ⟨ns, n⟩ := q
  unfold etreeKey canon keyOf
  by_cases h1 : ns = c.defaultNs
  · subst h1; simp
  · by_cases h2 : ns = ""
    · subst h2; simp
    · have h3 : ¬ c.defaultNs = ns := fun e => h1 e.symm
      simp [h1, h2, h3]

theorem unkey_keyOf (q : QName) : unkey (keyOf q) = q := by
  obtain ⟨ns, n⟩ := q
  unfold keyOf
  by_cases h : ns = ""
  · subst h; simp [unkey]
  · simp [h, unkey]

theorem keyOf_unkey {k : Key} (h : k.1 ≠ some "") : keyOf (unkey k) = k := by
  obtain ⟨o, n⟩ := k
  cases o with
  | none => simp [unkey, keyOf]
  | some ns =>
    have : ns ≠ "" := fun e => h (by simp [e])
    simp [unkey, keyOf, this]

theorem unkey_eq_iff {k k' : Key} (h : k.1 ≠ some "") (h' : k'.1 ≠ some "") :
    unkey k = unkey k' ↔ k = k' := by
  constructor
  · intro e
    have := congrArg keyOf e
    rwa [keyOf_unkey h, keyOf_unkey h'] at this
  · intro e; rw [e]

theorem keyOf_fst_ne (q : QName) : (keyOf q).1 ≠ some "" := by
  obtain ⟨ns, n⟩ := q
  unfold keyOf
  by_cases h : ns = ""
  · subst h; simp
  · simp [h]

theorem etreeKey_fst_ne (c : Ctx) (q : QName) : (etreeKey c q).1 ≠ some "" := by
  rw [etreeKey_eq]; exact keyOf_fst_ne _

theorem etreeKey_adm (c : Ctx) (q : QName) (ns : String) (h : (etreeKey c q).1 = some ns) :
    ns ≠ "" ∧ ns ≠ c.defaultNs := by
  unfold etreeKey at h
  by_cases h1 : (q.1 != "" && c.defaultNs != q.1) = true
  · rw [if_pos h1] at h
    simp at h h1
    subst h
    exact ⟨h1.1, fun e => h1.2 e.symm⟩
  · rw [if_neg h1] at h
    simp at h

theorem unkey_etreeKey (c : Ctx) (q : QName) : unkey (etreeKey c q) = canon c q := by
  rw [etreeKey_eq, unkey_keyOf]

theorem storeOk_fst_ne {c : Ctx} {s : Store} (hok : storeOk c s) : ∀ e ∈ s, e.1.1 ≠ some "" := by
  intro e he h
  exact (hok.1 e he "" h).1 rfl

theorem sget_eq_get : sget = Assoc.get := by
  funext s k
  induction s with
  | nil => rfl
  | cons e r ih => simp only [sget, Assoc.get, ih]

theorem sset_eq_set : sset = Assoc.set := by
  funext s k v
  induction s with
  | nil => rfl
  | cons e r ih => simp only [sset, Assoc.set, ih]

theorem sdel_eq_del : sdel = Assoc.del := rfl

theorem cacheGet_eq_get : cacheGet = Assoc.get := by
  funext s k
  induction s with
  | nil => rfl
  | cons e r ih => simp only [cacheGet, Assoc.get, ih]

theorem cacheSet_eq_set : cacheSet = Assoc.set := by
  funext s k v
  induction s with
  | nil => rfl
  | cons e r ih => simp only [cacheSet, Assoc.set, ih]

theorem cacheDel_eq_del : cacheDel = Assoc.del := rfl

theorem dictGet_eq_get : dictGet = Assoc.get := by
  funext s k
  induction s with
  | nil => rfl
  | cons e r ih => simp only [dictGet, Assoc.get, ih]

theorem dictSet_eq_set : dictSet = Assoc.set := by
  funext s k v
  induction s with
  | nil => rfl
  | cons e r ih => simp only [dictSet, Assoc.set, ih]

theorem dictDel_eq_del : dictDel = Assoc.del := rfl

@[simp] theorem absStore_nil : absStore [] = [] := rfl

theorem absStore_eq_mapKeys : absStore = Assoc.mapKeys unkey := by
  funext s
  apply List.map_congr_left
  rintro ⟨⟨o, n⟩, v⟩ _
  cases o <;> rfl

theorem absStore_keys (s : Store) : (absStore s).map (·.1) = (s.map (·.1)).map unkey := by
  rw [absStore_eq_mapKeys, Assoc.mapKeys, List.map_map, List.map_map]; rfl

theorem sget_sset (s : Store) (k k' : Key) (v : Str) :
    sget (sset s k v) k' = if k' = k then some v else sget s k' := by
  rw [sget_eq_get, sset_eq_set]; exact Assoc.get_set s k k' v

theorem sget_sset_self (s : Store) (k : Key) (v : Str) : sget (sset s k v) k = some v := by
  rw [sget_sset, if_pos rfl]

theorem sget_sset_ne (s : Store) {k k' : Key} (v : Str) (hne : k' ≠ k) : sget (sset s k v) k' = sget s k' := by
  rw [sget_sset, if_neg hne]

theorem sget_sdel (s : Store) (k k' : Key) : sget (sdel s k) k' = if k' = k then none else sget s k' := by
  rw [sget_eq_get, sdel_eq_del]; exact Assoc.get_del s k k'

theorem cacheGet_cacheSet (l : Cache) (q q' : Key) (v : Nat) :
    cacheGet (cacheSet l q v) q' = if q' = q then some v else cacheGet l q' := by
  rw [cacheGet_eq_get, cacheSet_eq_set]; exact Assoc.get_set l q q' v

theorem cacheGet_cacheSet_self (l : Cache) (q : Key) (v : Nat) : cacheGet (cacheSet l q v) q = some v := by
  rw [cacheGet_cacheSet, if_pos rfl]

theorem cacheGet_cacheSet_ne (l : Cache) {q q' : Key} (v : Nat) (hne : q' ≠ q) :
    cacheGet (cacheSet l q v) q' = cacheGet l q' := by
  rw [cacheGet_cacheSet, if_neg hne]

theorem cacheGet_cacheDel (l : Cache) (q q' : Key) :
    cacheGet (cacheDel l q) q' = if q' = q then none else cacheGet l q' := by
  rw [cacheGet_eq_get, cacheDel_eq_del]; exact Assoc.get_del l q q'

theorem storeOk_sset {c : Ctx} {s : Store} (hok : storeOk c s) (q : QName) (v : Str) :
    storeOk c (sset s (etreeKey c q) v) := by
  rw [sset_eq_set]
  refine ⟨fun e he ns hns => ?_, Assoc.keys_set_nodup _ _ hok.2⟩
  rcases Assoc.mem_set he with h | h
  · rw [h] at hns; exact etreeKey_adm c q ns hns
  · exact hok.1 e h ns hns

theorem storeOk_sdel {c : Ctx} {s : Store} (hok : storeOk c s) (k : Key) : storeOk c (sdel s k) :=
  ⟨fun e he => hok.1 e (List.mem_filter.1 he).1, List.Nodup.sublist (List.Sublist.map _ List.filter_sublist) hok.2⟩

theorem unkey_inj_of_ok {c : Ctx} {s : Store} (hok : storeOk c s) (q : QName) :
    ∀ e ∈ s, unkey e.1 = unkey (etreeKey c q) → e.1 = etreeKey c q :=
  fun e he h => (unkey_eq_iff (storeOk_fst_ne hok e he) (etreeKey_fst_ne c q)).1 h

theorem sget_etreeKey {c : Ctx} {st : Store} (hok : storeOk c st) (q : QName) :
    sget st (etreeKey c q) = dictGet (absStore st) (canon c q) := by
  rw [sget_eq_get, dictGet_eq_get, absStore_eq_mapKeys, ← unkey_etreeKey]
  exact (Assoc.get_mapKeys (unkey_inj_of_ok hok q)).symm

theorem absStore_sset {c : Ctx} {st : Store} (hok : storeOk c st) (q : QName) (v : Str) :
    absStore (sset st (etreeKey c q) v) = dictSet (absStore st) (canon c q) v := by
  rw [sset_eq_set, dictSet_eq_set, absStore_eq_mapKeys, ← unkey_etreeKey]
  exact Assoc.set_mapKeys (unkey_inj_of_ok hok q) v

theorem absStore_sdel {c : Ctx} {st : Store} (hok : storeOk c st) (q : QName) :
    absStore (sdel st (etreeKey c q)) = dictDel (absStore st) (canon c q) := by
  rw [sdel_eq_del, dictDel_eq_del, absStore_eq_mapKeys, ← unkey_etreeKey]
  exact Assoc.del_mapKeys (unkey_inj_of_ok hok q)

theorem absStore_keys_nodup {c : Ctx} {st : Store} (hok : storeOk c st) : ((absStore st).map (·.1)).Nodup := by
  rw [absStore_keys]
  refine nodup_map_of_injOn (fun k hk k' hk' e => ?_) hok.2
  obtain ⟨e₁, he₁, rfl⟩ := List.mem_map.1 hk
  obtain ⟨e₂, he₂, rfl⟩ := List.mem_map.1 hk'
  exact (unkey_eq_iff (storeOk_fst_ne hok _ he₁) (storeOk_fst_ne hok _ he₂)).1 e

theorem reportedName_eq_iterName (c : Ctx) (q : QName) : reportedName c q = iterName c (etreeKey c q) := by
  simp only [reportedName, etreeKey, iterName]
  by_cases h1 : q.1 = ""
  · simp [h1]
  · by_cases h2 : c.defaultNs = q.1 <;> simp [h1, h2]

theorem resolve_pair (c : Ctx) (q : QName) : resolve c (.pair q.1 q.2) = q := rfl

theorem etreeKey_iterName {c : Ctx} {k : Key} (h : ∀ ns, k.1 = some ns → ns ≠ "" ∧ ns ≠ c.defaultNs) :
    etreeKey c (iterName c k) = k := by
  obtain ⟨o, n⟩ := k
  cases o with
  | none => simp [iterName, etreeKey]
  | some ns =>
    obtain ⟨h1, h2⟩ := h ns rfl
    have h3 : ¬ c.defaultNs = ns := fun e => h2 e.symm
    simp [iterName, etreeKey, h1, h3]

theorem etreeKey_reportedName (c : Ctx) (q : QName) : etreeKey c (reportedName c q) = etreeKey c q := by
  rw [reportedName_eq_iterName, etreeKey_iterName (etreeKey_adm c q)]

theorem put_keeps_id (w u : View) : (if u.id == w.id then w else u).id = u.id := by
  by_cases h : (u.id == w.id) = true
  · rw [if_pos h]; exact (eq_of_beq h).symm
  · rw [if_neg h]

theorem getView_putView (s : State) (w : View) (id : Nat) :
    getView (putView s w) id = (getView s id).map (fun x => if x.id == w.id then w else x) := by
  unfold getView putView
  rw [List.find?_map]
  congr 2
  funext u
  exact congrArg (· == id) (put_keeps_id w u)

theorem getView_id {s : State} {id : Nat} {v : View} (h : getView s id = some v) : v.id = id := by
  have := List.find?_some h
  simpa using this

theorem getView_mem {s : State} {id : Nat} {v : View} (h : getView s id = some v) : v ∈ s.views :=
  List.mem_of_find?_eq_some h

theorem getView_putView_ne (s : State) (w : View) {id : Nat} (h : id ≠ w.id) :
    getView (putView s w) id = getView s id := by
  rw [getView_putView]
  cases hv : getView s id with
  | none => rfl
  | some u =>
    have : u.id = id := getView_id hv
    have hne : ¬ u.id = w.id := by rw [this]; exact h
    simp [hne]

theorem getView_putView_self (s : State) {w u : View} {vid : Nat} (h : getView s vid = some u) (hw : w.id = u.id) :
    getView (putView s w) vid = some w := by
  rw [getView_putView, h]
  simp [hw]

theorem putView_store (s : State) (w : View) : (putView s w).store = s.store := rfl
theorem putView_cache (s : State) (w : View) : (putView s w).cache = s.cache := rfl
theorem putView_nextView (s : State) (w : View) : (putView s w).nextView = s.nextView := rfl

theorem putView_ids (s : State) (w : View) : (putView s w).views.map (·.id) = s.views.map (·.id) := by
  unfold putView
  rw [List.map_map]
  exact List.map_congr_left fun u _ => put_keeps_id w u

theorem putView_putView (s : State) {w w' : View} (h : w.id = w'.id) : putView (putView s w) w' = putView s w' := by
  unfold putView
  simp only [List.map_map]
  refine congrArg (fun l => (⟨s.store, s.cache, l, s.nextView⟩ : State)) (List.map_congr_left fun u _ => ?_)
  by_cases hu : u.id = w.id
  · simp [hu, h]
  · simp [hu, h ▸ hu]

theorem putView_views_filter (s : State) (w : View) (n : Nat) :
    (putView s w).views.filter (fun u => u.id != n) =
      (s.views.filter (fun u => u.id != n)).map (fun u => if u.id == w.id then w else u) := by
  unfold putView
  rw [List.filter_map]
  congr 2
  funext u
  exact congrArg (· != n) (put_keeps_id w u)

/-- ids below `n` and pairwise different -/
def idsOk (l : List View) (n : Nat) : Prop := (∀ v ∈ l, v.id < n) ∧ (l.map (·.id)).Nodup

theorem idsOk_of_ids {l l' : List View} {n : Nat} (h : idsOk l n) (e : l'.map (·.id) = l.map (·.id)) :
    idsOk l' n := by
  refine ⟨?_, by rw [e]; exact h.2⟩
  intro v hv
  have : v.id ∈ l.map (·.id) := by rw [← e]; exact List.mem_map.2 ⟨v, hv, rfl⟩
  obtain ⟨u, hu, hid⟩ := List.mem_map.1 this
  rw [← hid]; exact h.1 u hu

theorem idsOk_append {l : List View} {n : Nat} (h : idsOk l n) (v : View) (hv : v.id = n) :
    idsOk (l ++ [v]) (n + 1) := by
  refine ⟨?_, ?_⟩
  · intro u hu
    rcases List.mem_append.1 hu with hu | hu
    · exact Nat.lt_succ_of_lt (h.1 u hu)
    · simp at hu; subst hu; rw [hv]; exact Nat.lt_succ_self _
  · rw [List.map_append, List.nodup_append]
    refine ⟨h.2, by simp, ?_⟩
    intro a ha b hb
    simp at hb
    obtain ⟨u, hu, rfl⟩ := List.mem_map.1 ha
    rw [hb, hv]
    exact Nat.ne_of_lt (h.1 u hu)

theorem idsOk_mono {l : List View} {n m : Nat} (h : idsOk l n) (hnm : n ≤ m) : idsOk l m :=
  ⟨fun v hv => Nat.lt_of_lt_of_le (h.1 v hv) hnm, h.2⟩

/-! ## the view invariant through the three lookup functions -/

structure LookOk (c : Ctx) (sg : Key → Option Str) (cg : Key → Option Nat) (gv : Nat → Option View) : Prop where
  cached : ∀ k id, cg k = some id → ∃ v, gv id = some v ∧ v.attached = true ∧ etreeKey c v.qname = k
  attached : ∀ id v, gv id = some v → v.attached = true → cg (etreeKey c v.qname) = some id
  stored : ∀ k id, cg k = some id → (sg k).isSome = true
  detached : ∀ id v, gv id = some v → v.attached = false → v.detachedValue.isSome = true

theorem viewsOk_iff {c : Ctx} {s : State} :
    ViewsOk c s ↔ idsOk s.views s.nextView ∧ LookOk c (sget s.store) (cacheGet s.cache) (getView s) :=
  ⟨fun h => ⟨⟨h.fresh, h.unique⟩, ⟨h.cached, h.attached, h.stored, h.detached⟩⟩,
   fun h => ⟨h.1.1, h.1.2, h.2.cached, h.2.attached, h.2.stored, h.2.detached⟩⟩

theorem LookOk.congr {c : Ctx} {sg sg' : Key → Option Str} {cg cg' : Key → Option Nat} {gv gv' : Nat → Option View}
    (h : LookOk c sg cg gv) (h1 : ∀ k, sg' k = sg k) (h2 : ∀ k, cg' k = cg k) (h3 : ∀ i, gv' i = gv i) :
    LookOk c sg' cg' gv' := by
  rw [funext h1, funext h2, funext h3]; exact h

theorem LookOk.store {c : Ctx} {sg sg' : Key → Option Str} {cg : Key → Option Nat} {gv : Nat → Option View}
    (h : LookOk c sg cg gv) (hs : ∀ k, (sg k).isSome = true → (sg' k).isSome = true) : LookOk c sg' cg gv :=
  ⟨h.cached, h.attached, fun k id hk => hs k (h.stored k id hk), h.detached⟩

theorem eq_or_of_ite_some {α β : Type} [DecidableEq α] {i j : α} {w u : β} {f : α → Option β}
    (h : (if i = j then some w else f i) = some u) : (i = j ∧ w = u) ∨ (i ≠ j ∧ f i = some u) := by
  by_cases hij : i = j
  · rw [if_pos hij] at h; exact .inl ⟨hij, Option.some.inj h⟩
  · rw [if_neg hij] at h; exact .inr ⟨hij, h⟩

theorem LookOk.attach {c : Ctx} {sg : Key → Option Str} {cg : Key → Option Nat} {gv : Nat → Option View}
    (h : LookOk c sg cg gv) {k : Key} {n : Nat} {w : View} (hk : cg k = none)
    (hn : ∀ v, gv n = some v → v.attached = false)
    (hs : (sg k).isSome = true) (hw : w.attached = true) (hq : etreeKey c w.qname = k) :
    LookOk c sg (fun k' => if k' = k then some n else cg k') (fun i => if i = n then some w else gv i) := by
  refine ⟨fun k' id hc => ?_, fun id v hv ha => ?_, fun k' id hc => ?_, fun id v hv ha => ?_⟩
  · rcases eq_or_of_ite_some hc with ⟨rfl, rfl⟩ | ⟨-, hc⟩
    · exact ⟨w, if_pos rfl, hw, hq⟩
    · obtain ⟨v, hv, ha, hkv⟩ := h.cached k' id hc
      have : id ≠ n := fun e => by rw [hn v (e ▸ hv)] at ha; cases ha
      exact ⟨v, by rw [if_neg this]; exact hv, ha, hkv⟩
  · rcases eq_or_of_ite_some hv with ⟨rfl, rfl⟩ | ⟨-, hv⟩
    · rw [hq]; exact if_pos rfl
    · have := h.attached id v hv ha
      have hne : etreeKey c v.qname ≠ k := fun e => by rw [e, hk] at this; cases this
      rw [if_neg hne]; exact this
  · rcases eq_or_of_ite_some hc with ⟨rfl, -⟩ | ⟨-, hc⟩
    · exact hs
    · exact h.stored k' id hc
  · rcases eq_or_of_ite_some hv with ⟨rfl, rfl⟩ | ⟨-, hv⟩
    · rw [hw] at ha; cases ha
    · exact h.detached id v hv ha

theorem LookOk.detach {c : Ctx} {sg sg' : Key → Option Str} {cg : Key → Option Nat} {gv : Nat → Option View}
    (h : LookOk c sg cg gv) {vid : Nat} {v : View} (x : Str) (hv : gv vid = some v) (ha : v.attached = true)
    (hs : ∀ k, k ≠ etreeKey c v.qname → (sg k).isSome = true → (sg' k).isSome = true) :
    LookOk c sg' (fun k' => if k' = etreeKey c v.qname then none else cg k')
      (fun i => if i = vid then some { v with attached := false, detachedValue := some x } else gv i) := by
  refine ⟨fun k' id hc => ?_, fun id u hu hua => ?_, fun k' id hc => ?_, fun id u hu hua => ?_⟩
  · by_cases hk' : k' = etreeKey c v.qname
    · rw [if_pos hk'] at hc; cases hc
    · rw [if_neg hk'] at hc
      obtain ⟨u, hu, hua, huk⟩ := h.cached k' id hc
      have : id ≠ vid := by
        rintro rfl
        cases hv.symm.trans hu
        exact hk' huk.symm
      exact ⟨u, by rw [if_neg this]; exact hu, hua, huk⟩
  · rcases eq_or_of_ite_some hu with ⟨rfl, rfl⟩ | ⟨hid, hu⟩
    · cases hua
    · have hc := h.attached id u hu hua
      have hne : etreeKey c u.qname ≠ etreeKey c v.qname := by
        intro e
        rw [e, h.attached vid v hv ha] at hc
        exact hid (Option.some.inj hc).symm
      rw [if_neg hne]; exact hc
  · by_cases hk' : k' = etreeKey c v.qname
    · rw [if_pos hk'] at hc; cases hc
    · rw [if_neg hk'] at hc
      exact hs k' hk' (h.stored k' id hc)
  · rcases eq_or_of_ite_some hu with ⟨rfl, rfl⟩ | ⟨-, hu⟩
    · rfl
    · exact h.detached id u hu hua

theorem LookOk.setDetached {c : Ctx} {sg : Key → Option Str} {cg : Key → Option Nat} {gv : Nat → Option View}
    (h : LookOk c sg cg gv) {vid : Nat} {v : View} (x : Str) (hv : gv vid = some v) (ha : v.attached = false) :
    LookOk c sg cg (fun i => if i = vid then some { v with detachedValue := some x } else gv i) := by
  refine ⟨fun k' id hc => ?_, fun id u hu hua => ?_, h.stored, fun id u hu hua => ?_⟩
  · obtain ⟨u, hu, hua, huk⟩ := h.cached k' id hc
    have : id ≠ vid := by
      rintro rfl
      cases hv.symm.trans hu
      rw [ha] at hua; cases hua
    exact ⟨u, by rw [if_neg this]; exact hu, hua, huk⟩
  · rcases eq_or_of_ite_some hu with ⟨rfl, rfl⟩ | ⟨-, hu⟩
    · rw [show v.attached = true from hua] at ha; cases ha
    · exact h.attached id u hu hua
  · rcases eq_or_of_ite_some hu with ⟨rfl, rfl⟩ | ⟨-, hu⟩
    · rfl
    · exact h.detached id u hu hua

theorem LookOk.move {c : Ctx} {sg sg' : Key → Option Str} {cg : Key → Option Nat} {gv : Nat → Option View}
    (h : LookOk c sg cg gv) {vid : Nat} {v : View} (nq : QName) (dv : Option Str)
    (hv : gv vid = some v) (ha : v.attached = true) (hfree : cg (etreeKey c nq) = none)
    (hnew : (sg' (etreeKey c nq)).isSome = true)
    (hs : ∀ k, k ≠ etreeKey c v.qname → (sg k).isSome = true → (sg' k).isSome = true) :
    LookOk c sg' (fun k' => if k' = etreeKey c nq then some vid else if k' = etreeKey c v.qname then none else cg k')
      (fun i => if i = vid then some { v with qname := nq, detachedValue := dv } else gv i) := by
  have h1 := (h.detach [] hv ha hs).attach (k := etreeKey c nq) (n := vid)
    (w := { v with qname := nq, detachedValue := dv }) (by simp only [hfree, ite_self])
    (fun u hu => by rw [if_pos rfl] at hu; cases hu; rfl) hnew ha rfl
  exact h1.congr (fun _ => rfl) (fun _ => rfl) (fun i => by by_cases hi : i = vid <;> simp [hi])

theorem getView_putView_eq (s : State) {w u : View} {vid : Nat} (h : getView s vid = some u) (hw : w.id = u.id)
    (id : Nat) : getView (putView s w) id = if id = vid then some w else getView s id := by
  by_cases hid : id = vid
  · subst hid; rw [if_pos rfl]; exact getView_putView_self s h hw
  · rw [if_neg hid]; exact getView_putView_ne s w (by rw [hw, getView_id h]; exact hid)

theorem getView_push {s : State} (hf : ∀ v ∈ s.views, v.id < s.nextView) (w : View) (hw : w.id = s.nextView)
    (st : Store) (ca : Cache) (n : Nat) (id : Nat) :
    getView ⟨st, ca, s.views ++ [w], n⟩ id = if id = s.nextView then some w else getView s id := by
  simp only [getView, List.find?_append, List.find?_singleton, hw]
  by_cases hid : id = s.nextView
  · subst hid
    have : s.views.find? (fun v => v.id == s.nextView) = none :=
      List.find?_eq_none.2 fun v hv => by simpa using Nat.ne_of_lt (hf v hv)
    simp [this]
  · simp [hid, Ne.symm hid]

theorem ViewsOk.pushState {c : Ctx} {s : State} (h : ViewsOk c s) {k : Key} (q : QName) (st : Store)
    (hk : cacheGet s.cache k = none) (hq : etreeKey c q = k) (hs : (sget st k).isSome = true)
    (hst : ∀ k', (sget s.store k').isSome = true → (sget st k').isSome = true) :
    ViewsOk c ⟨st, cacheSet s.cache k s.nextView,
      s.views ++ [{ id := s.nextView, attached := true, qname := q, detachedValue := Option.none }], s.nextView + 1⟩ := by
  rw [viewsOk_iff] at *
  refine ⟨idsOk_append h.1 _ rfl, ?_⟩
  have h2 := (h.2.store hst).attach (w := { id := s.nextView, attached := true, qname := q, detachedValue := Option.none })
    hk (fun v hv => absurd (h.1.1 v (getView_mem hv)) (by rw [getView_id hv]; exact Nat.lt_irrefl _)) hs rfl hq
  exact h2.congr (fun _ => rfl) (fun k' => cacheGet_cacheSet _ _ _ _) (fun i => getView_push h.1.1 _ rfl _ _ _ _)

theorem ViewsOk.storeState {c : Ctx} {s : State} (h : ViewsOk c s) (st : Store)
    (hst : ∀ k', (sget s.store k').isSome = true → (sget st k').isSome = true) :
    ViewsOk c { s with store := st } := by
  rw [viewsOk_iff] at *
  exact ⟨h.1, h.2.store hst⟩

theorem sset_isSome (s : Store) (k : Key) (x : Str) (k' : Key) (h : (sget s k').isSome = true) :
    (sget (sset s k x) k').isSome = true := by
  rw [sget_sset]
  by_cases hk : k' = k
  · rw [if_pos hk]; rfl
  · rw [if_neg hk]; exact h

theorem getItem_hit {c : Ctx} {s : State} {a : Accessor} {vid : Nat} (hc : contains c s a = true)
    (hg : cacheGet s.cache (etreeKey c (resolve c a)) = some vid) : getItem c s a = (s, .view vid) := by
  unfold getItem
  simp only [hc, Bool.not_true, Bool.false_eq_true, if_false, hg]

theorem getItem_miss {c : Ctx} {s : State} {a : Accessor} (hc : contains c s a = true)
    (hg : cacheGet s.cache (etreeKey c (resolve c a)) = none) :
    getItem c s a =
      (⟨s.store, cacheSet s.cache (etreeKey c (resolve c a)) s.nextView,
        s.views ++ [{ id := s.nextView, attached := true, qname := reportedName c (resolve c a),
                      detachedValue := Option.none }], s.nextView + 1⟩, .view s.nextView) := by
  unfold getItem
  simp only [hc, Bool.not_true, Bool.false_eq_true, if_false, hg]

theorem getItem_keyError {c : Ctx} {s : State} {a : Accessor} (hc : contains c s a = false) :
    getItem c s a = (s, .keyError) := by
  unfold getItem
  simp [hc]

theorem ViewsOk.getItem {c : Ctx} {s : State} (h : ViewsOk c s) (a : Accessor) : ViewsOk c (getItem c s a).1 := by
  cases hc : contains c s a with
  | false => rw [getItem_keyError hc]; exact h
  | true =>
    cases hg : cacheGet s.cache (etreeKey c (resolve c a)) with
    | some vid => rw [getItem_hit hc hg]; exact h
    | none =>
      rw [getItem_miss hc hg]
      exact h.pushState _ _ hg (etreeKey_reportedName c _) hc (fun _ h => h)

theorem getItem_view {c : Ctx} {s : State} {a : Accessor} (hc : contains c s a = true) :
    ∃ vid, getItem c s a = ((getItem c s a).1, .view vid) ∧
      cacheGet (getItem c s a).1.cache (etreeKey c (resolve c a)) = some vid := by
  cases hg : cacheGet s.cache (etreeKey c (resolve c a)) with
  | some vid => rw [getItem_hit hc hg]; exact ⟨vid, rfl, hg⟩
  | none => rw [getItem_miss hc hg]; exact ⟨_, rfl, cacheGet_cacheSet_self _ _ _⟩

theorem getItem_store (c : Ctx) (s : State) (a : Accessor) : (getItem c s a).1.store = s.store := by
  unfold getItem
  cases contains c s a with
  | false => rfl
  | true =>
    simp only [Bool.not_true, Bool.false_eq_true, if_false]
    cases cacheGet s.cache (etreeKey c (resolve c a)) <;> rfl

theorem setItem_hit {c : Ctx} {s : State} {a : Accessor} {vid : Nat} (x : Str)
    (hg : cacheGet s.cache (etreeKey c (resolve c a)) = some vid) :
    setItem c s a x = { s with store := sset s.store (etreeKey c (resolve c a)) x } := by
  unfold setItem
  simp only [hg]

theorem setItem_miss {c : Ctx} {s : State} {a : Accessor} (x : Str)
    (hg : cacheGet s.cache (etreeKey c (resolve c a)) = none) :
    setItem c s a x =
      ⟨sset s.store (etreeKey c (resolve c a)) x, cacheSet s.cache (etreeKey c (resolve c a)) s.nextView,
        s.views ++ [{ id := s.nextView, attached := true, qname := reportedName c (resolve c a),
                      detachedValue := Option.none }], s.nextView + 1⟩ := by
  unfold setItem
  simp only [hg]

theorem setItem_store (c : Ctx) (s : State) (a : Accessor) (x : Str) :
    (setItem c s a x).store = sset s.store (etreeKey c (resolve c a)) x := by
  cases hg : cacheGet s.cache (etreeKey c (resolve c a)) with
  | some vid => rw [setItem_hit x hg]
  | none => rw [setItem_miss x hg]

theorem ViewsOk.setItem {c : Ctx} {s : State} (h : ViewsOk c s) (a : Accessor) (x : Str) :
    ViewsOk c (setItem c s a x) := by
  cases hg : cacheGet s.cache (etreeKey c (resolve c a)) with
  | some vid =>
    rw [setItem_hit x hg]
    exact h.storeState _ (sset_isSome _ _ _)
  | none =>
    rw [setItem_miss x hg]
    exact h.pushState _ _ hg (etreeKey_reportedName c _) (by rw [sget_sset_self]; rfl) (sset_isSome _ _ _)

theorem getView_setItem {s : State} {id : Nat} {v : View} (c : Ctx) (a : Accessor) (x : Str)
    (hv : getView s id = some v) : getView (setItem c s a x) id = some v := by
  cases hg : cacheGet s.cache (etreeKey c (resolve c a)) with
  | some vid => rw [setItem_hit x hg]; exact hv
  | none =>
    rw [setItem_miss x hg]
    unfold getView at hv ⊢
    rw [List.find?_append, hv]; rfl

theorem cacheGet_setItem_ne {c : Ctx} {s : State} {a : Accessor} (x : Str) {k : Key}
    (hne : k ≠ etreeKey c (resolve c a)) : cacheGet (setItem c s a x).cache k = cacheGet s.cache k := by
  cases hg : cacheGet s.cache (etreeKey c (resolve c a)) with
  | some vid => rw [setItem_hit x hg]
  | none => rw [setItem_miss x hg]; exact cacheGet_cacheSet_ne _ _ hne

theorem setItem_nextView_le (c : Ctx) (s : State) (a : Accessor) (x : Str) :
    s.nextView ≤ (setItem c s a x).nextView := by
  cases hg : cacheGet s.cache (etreeKey c (resolve c a)) with
  | some vid => rw [setItem_hit x hg]; exact Nat.le_refl _
  | none => rw [setItem_miss x hg]; exact Nat.le_succ _

theorem setItem_views_drop {c : Ctx} {s : State} (hf : ∀ u ∈ s.views, u.id < s.nextView) (a : Accessor) (x : Str)
    (hg : cacheGet s.cache (etreeKey c (resolve c a)) = none) :
    (setItem c s a x).views.filter (fun u => u.id != s.nextView) = s.views := by
  rw [setItem_miss x hg]
  show (s.views ++ [_]).filter _ = _
  rw [List.filter_append, List.filter_eq_self.2 fun u hu => by simpa using Nat.ne_of_lt (hf u hu)]
  simp

theorem viewValue_attached {c : Ctx} {s : State} {vid : Nat} {v : View} {x : Str} (hv : getView s vid = some v)
    (ha : v.attached = true) (hx : sget s.store (etreeKey c v.qname) = some x) : viewValue c s vid = .value x := by
  simp only [viewValue, hv, ha, if_true, hx]

theorem viewValue_detached {c : Ctx} {s : State} {vid : Nat} {v : View} {x : Str} (hv : getView s vid = some v)
    (ha : v.attached = false) (hx : v.detachedValue = some x) : viewValue c s vid = .value x := by
  simp only [viewValue, hv, ha, Bool.false_eq_true, if_false, hx]

theorem viewValue_congr {c : Ctx} {s s' : State} {vid : Nat} (hv : getView s' vid = getView s vid)
    (hs : ∀ v, getView s vid = some v → v.attached = true →
      sget s'.store (etreeKey c v.qname) = sget s.store (etreeKey c v.qname)) :
    viewValue c s' vid = viewValue c s vid := by
  unfold viewValue
  rw [hv]
  cases h : getView s vid with
  | none => rfl
  | some v =>
    cases ha : v.attached with
    | false => simp only [ha, Bool.false_eq_true, if_false]
    | true => simp only [ha, if_true, hs v h ha]

theorem ViewsOk.viewValue {c : Ctx} {s : State} (h : ViewsOk c s) {vid : Nat} {v : View}
    (hv : getView s vid = some v) (ha : v.attached = true) :
    ∃ x, sget s.store (etreeKey c v.qname) = some x ∧ viewValue c s vid = .value x := by
  have hs := h.stored _ _ (h.attached vid v hv ha)
  cases hx : sget s.store (etreeKey c v.qname) with
  | none => rw [hx] at hs; cases hs
  | some x => exact ⟨x, rfl, viewValue_attached hv ha hx⟩

theorem ViewsOk.key_inj {c : Ctx} {s : State} (h : ViewsOk c s) {i j : Nat} {v w : View}
    (hv : getView s i = some v) (hw : getView s j = some w) (hva : v.attached = true) (hwa : w.attached = true)
    (hk : etreeKey c v.qname = etreeKey c w.qname) : i = j := by
  have hc := h.attached i v hv hva
  rw [hk, h.attached j w hw hwa] at hc
  exact (Option.some.inj hc).symm

theorem detachView_eq {c : Ctx} {s : State} {vid : Nat} {v : View} {x : Str} (hv : getView s vid = some v)
    (hx : viewValue c s vid = .value x) :
    detachView c s vid = some (putView s { v with attached := false, detachedValue := some x }) := by
  unfold detachView
  simp only [hv, hx]

/-- `delItem` when the lookup `self[qualified_name]` gives a view whose value can be read -/
theorem delItem_eq {c : Ctx} {s s₁ : State} {a : Accessor} {vid : Nat} {v : View} {x : Str}
    (hc : contains c s a = true) (hgi : getItem c s (.pair (resolve c a).1 (resolve c a).2) = (s₁, .view vid))
    (hv : getView s₁ vid = some v) (hx : viewValue c s₁ vid = .value x) :
    delItem c s a =
      ({ (putView s₁ { v with attached := false, detachedValue := some x }) with
           store := sdel s₁.store (etreeKey c (resolve c a)), cache := cacheDel s₁.cache (etreeKey c (resolve c a)) },
       .unit) := by
  unfold delItem
  simp only [hc, Bool.not_true, Bool.false_eq_true, if_false, hgi, detachView_eq hv hx]
  rfl

theorem delItem_keyError {c : Ctx} {s : State} {a : Accessor} (hc : contains c s a = false) :
    delItem c s a = (s, .keyError) := by
  unfold delItem
  simp [hc]

/-- the view of the key is looked up first (`self[qualified_name]`), so that there is one to detach -/
theorem delItem_spec {c : Ctx} {s : State} (h : ViewsOk c s) {a : Accessor} (hc : contains c s a = true) :
    ∃ s', delItem c s a = (s', .unit) ∧ s'.store = sdel s.store (etreeKey c (resolve c a)) ∧ ViewsOk c s' := by
  have hc' : contains c s (.pair (resolve c a).1 (resolve c a).2) = true := hc
  obtain ⟨vid, hgi, hg⟩ := getItem_view hc'
  have h1 := h.getItem (.pair (resolve c a).1 (resolve c a).2)
  have hst := getItem_store c s (.pair (resolve c a).1 (resolve c a).2)
  generalize (getItem c s (.pair (resolve c a).1 (resolve c a).2)).1 = s₁ at hgi hg h1 hst
  obtain ⟨v, hv, ha, hk⟩ := h1.cached _ _ hg
  obtain ⟨x, -, hval⟩ := h1.viewValue hv ha
  rw [delItem_eq hc hgi hv hval]
  refine ⟨_, rfl, by rw [← hst], ?_⟩
  rw [viewsOk_iff] at h1 ⊢
  refine ⟨idsOk_of_ids h1.1 (putView_ids _ _), ?_⟩
  have hk : etreeKey c v.qname = etreeKey c (resolve c a) := hk
  refine (h1.2.detach (sg' := sget (sdel s₁.store (etreeKey c (resolve c a)))) x hv ha fun k hne hs => ?_).congr
    (fun _ => rfl) (fun k => ?_) (getView_putView_eq s₁ hv rfl)
  · rw [sget_sdel, if_neg (hk ▸ hne)]; exact hs
  · rw [hk]; exact cacheGet_cacheDel _ _ _

theorem ViewsOk.delItem {c : Ctx} {s : State} (h : ViewsOk c s) (a : Accessor) : ViewsOk c (delItem c s a).1 := by
  cases hc : contains c s a with
  | false => rw [delItem_keyError hc]; exact h
  | true =>
    obtain ⟨s', hd, -, h'⟩ := delItem_spec h hc
    rw [hd]; exact h'

theorem viewSetValue_attached {c : Ctx} {s : State} {vid : Nat} {v : View} (x : Str) (hv : getView s vid = some v)
    (ha : v.attached = true) :
    viewSetValue c s vid x = { s with store := sset s.store (etreeKey c v.qname) x } := by
  unfold viewSetValue
  simp only [hv, ha, if_true]

theorem viewSetValue_detached {c : Ctx} {s : State} {vid : Nat} {v : View} (x : Str) (hv : getView s vid = some v)
    (ha : v.attached = false) :
    viewSetValue c s vid x = putView s { v with detachedValue := some x } := by
  unfold viewSetValue
  simp only [hv, ha, Bool.false_eq_true, if_false]

theorem viewSetValue_none {c : Ctx} {s : State} {vid : Nat} (x : Str) (hv : getView s vid = none) :
    viewSetValue c s vid x = s := by
  unfold viewSetValue
  simp only [hv]

theorem renameView_none {c : Ctx} {s : State} {vid : Nat} (nq : QName) (hv : getView s vid = none) :
    renameView c s vid nq = (s, .keyError) := by
  unfold renameView
  rw [hv]

theorem renameView_same {c : Ctx} {s : State} {vid : Nat} {v : View} (hv : getView s vid = some v) :
    renameView c s vid v.qname = (s, .unit) := by
  unfold renameView
  rw [hv]
  exact if_pos BEq.rfl

theorem renameView_detached {c : Ctx} {s : State} {vid : Nat} {v : View} {nq : QName} (hv : getView s vid = some v)
    (hq : v.qname ≠ nq) (ha : v.attached = false) : renameView c s vid nq = (s, .keyError) := by
  unfold renameView
  rw [hv]
  show (if (v.qname == nq) = true then _ else if (!v.attached) = true then _ else _) = _
  rw [if_neg (by simpa using hq), ha]
  rfl

theorem renameView_alias {c : Ctx} {s : State} {vid : Nat} {v : View} {nq : QName} (hv : getView s vid = some v)
    (ha : v.attached = true) (hk : etreeKey c nq = etreeKey c v.qname) : renameView c s vid nq = (s, .unit) := by
  by_cases hq : v.qname = nq
  · subst hq; exact renameView_same hv
  · unfold renameView
    rw [hv]
    show (if (v.qname == nq) = true then _ else if (!v.attached) = true then _ else
      if (etreeKey c nq == etreeKey c v.qname) = true then _ else _) = _
    rw [if_neg (by simpa using hq), ha, hk]
    exact (if_neg Bool.false_ne_true).trans (if_pos BEq.rfl)

/-- the main branch of `renameView` in closed form; `s0` is the state after the attribute of the new name was
    superseded.  The three writes to the renamed object (new name; detached by the removal; attached again) are
    one, and the object that the assignment creates when none is cached for the new name leaves no trace but
    the counter. -/
theorem renameView_main {c : Ctx} {s s0 : State} {vid : Nat} {v : View} {nq : QName} {x : Str}
    (hv : getView s vid = some v) (ha : v.attached = true) (hk : etreeKey c nq ≠ etreeKey c v.qname)
    (h0 : (match cacheGet s.cache (etreeKey c nq) with
      | some rid => detachView c s rid
      | Option.none => some s) = some s0)
    (hf : ∀ u ∈ s0.views, u.id < s0.nextView) (hv0 : getView s0 vid = some v)
    (hx : sget s0.store (etreeKey c v.qname) = some x) (hcv : cacheGet s0.cache (etreeKey c v.qname) = some vid) :
    renameView c s vid nq =
      let s1 := setItem c s0 (.pair nq.1 nq.2) x
      (⟨sdel (sset s0.store (etreeKey c nq) x) (etreeKey c v.qname),
        cacheSet (cacheDel s1.cache (etreeKey c v.qname)) (etreeKey c nq) vid,
        (putView s0 { v with qname := nq, detachedValue := some x }).views, s1.nextView⟩, .unit) := by
  have hne : etreeKey c v.qname ≠ etreeKey c nq := fun e => hk e.symm
  have hv1 := getView_setItem c (.pair nq.1 nq.2) x hv0
  have hcv1 : cacheGet (setItem c s0 (.pair nq.1 nq.2) x).cache (etreeKey c v.qname) = some vid :=
    (cacheGet_setItem_ne (a := .pair nq.1 nq.2) x hne).trans hcv
  have hst1 : (setItem c s0 (.pair nq.1 nq.2) x).store = sset s0.store (etreeKey c nq) x := setItem_store c s0 _ x
  have hhit : ∀ r, cacheGet s0.cache (etreeKey c nq) = some r → (setItem c s0 (.pair nq.1 nq.2) x).views = s0.views :=
    fun r hg => by rw [setItem_hit (a := .pair nq.1 nq.2) x hg]
  have hmiss := setItem_views_drop (c := c) hf (.pair nq.1 nq.2) x
  unfold renameView
  simp only [hv, show (v.qname == nq) = false by simpa using fun e => hk (by rw [e]), ha,
    show (etreeKey c nq == etreeKey c v.qname) = false by simpa using hk,
    Bool.not_true, Bool.false_eq_true, if_false]
  split
  · rename_i heq
    cases heq.symm.trans h0
  rename_i s0' heq
  cases heq.symm.trans h0
  simp only [viewValue_attached hv0 ha hx]
  generalize setItem c s0 (.pair nq.1 nq.2) x = s1 at hv1 hcv1 hst1 hhit hmiss ⊢
  have hv2 : getView (putView s1 { v with qname := nq }) vid = some { v with qname := nq } :=
    getView_putView_self s1 hv1 rfl
  have hc2 : contains c (putView s1 { v with qname := nq }) (.pair v.qname.1 v.qname.2) = true := by
    show (sget s1.store (etreeKey c v.qname)).isSome = true
    rw [hst1, sget_sset_ne _ _ hne, hx]; rfl
  -- `del attributes[current]` detaches the object, which already has its new name, with the value just assigned
  have hd : delItem c (putView s1 { v with qname := nq }) (.pair v.qname.1 v.qname.2) =
      ({ putView s1 { v with qname := nq, attached := false, detachedValue := some x } with
          store := sdel s1.store (etreeKey c v.qname), cache := cacheDel s1.cache (etreeKey c v.qname) }, .unit) := by
    rw [delItem_eq hc2 (getItem_hit hc2 hcv1) hv2 (viewValue_attached hv2 ha (hst1 ▸ sget_sset_self _ _ x)),
      putView_putView s1 (w := { v with qname := nq })
        (w' := { v with qname := nq, attached := false, detachedValue := some x }) rfl]
    rfl
  have hv3 : getView { putView s1 { v with qname := nq, attached := false, detachedValue := some x } with
      store := sdel s1.store (etreeKey c v.qname), cache := cacheDel s1.cache (etreeKey c v.qname) } vid =
      some { v with qname := nq, attached := false, detachedValue := some x } :=
    getView_putView_self s1 hv1 rfl
  -- `self._attributes = attributes`
  have h4 : putView { putView s1 { v with qname := nq, attached := false, detachedValue := some x } with
      store := sdel s1.store (etreeKey c v.qname), cache := cacheDel s1.cache (etreeKey c v.qname) }
        { v with qname := nq, attached := true, detachedValue := some x } =
      { putView s1 { v with qname := nq, attached := true, detachedValue := some x } with
        store := sdel s1.store (etreeKey c v.qname), cache := cacheDel s1.cache (etreeKey c v.qname) } :=
    congrArg (fun t : State => { t with store := sdel s1.store (etreeKey c v.qname),
                                        cache := cacheDel s1.cache (etreeKey c v.qname) })
      (putView_putView s1 (w := { v with qname := nq, attached := false, detachedValue := some x })
        (w' := { v with qname := nq, attached := true, detachedValue := some x }) rfl)
  simp only [hv1, hd, hv3, h4]
  cases hg : cacheGet s0.cache (etreeKey c nq) with
  | some r => simp only [putView, hhit r hg, hst1]
  | none => simp only [putView_views_filter, hmiss hg, hst1]; rfl

/-- an attribute is superseded: the object cached for its key, if any, is detached with the stored value.  The
    cache keeps the entry (the caller overwrites it); without it the invariant holds. -/
theorem supersede_spec {c : Ctx} {s : State} (h : ViewsOk c s) (k : Key) :
    ∃ s0, (match cacheGet s.cache k with
        | some rid => detachView c s rid
        | Option.none => some s) = some s0 ∧
      s0.store = s.store ∧ s0.cache = s.cache ∧ idsOk s0.views s0.nextView ∧
      (∀ id, getView s0 id = if cacheGet s.cache k = some id then
          (getView s id).map (fun r => { r with attached := false, detachedValue := sget s.store k })
        else getView s id) ∧
      LookOk c (sget s.store) (fun k' => if k' = k then none else cacheGet s.cache k') (getView s0) := by
  rw [viewsOk_iff] at h
  cases hg : cacheGet s.cache k with
  | none =>
    refine ⟨s, rfl, rfl, rfl, h.1, fun id => (if_neg (by simp)).symm, h.2.congr (fun _ => rfl) (fun k' => ?_) (fun _ => rfl)⟩
    by_cases hk : k' = k
    · rw [if_pos hk, hk, hg]
    · rw [if_neg hk]
  | some rid =>
    obtain ⟨r, hr, hra, hrk⟩ := h.2.cached _ _ hg
    obtain ⟨y, hy, hval⟩ := (viewsOk_iff.2 h).viewValue hr hra
    have hgv := getView_putView_eq s (w := { r with attached := false, detachedValue := some y }) hr rfl
    refine ⟨_, detachView_eq hr hval, rfl, rfl, idsOk_of_ids h.1 (putView_ids _ _), fun id => ?_,
      (h.2.detach y hr hra (fun _ _ hs => hs)).congr (fun _ => rfl) (fun k' => by rw [hrk]) (fun i => hgv i)⟩
    rw [hgv, ← hrk, hy]
    by_cases hid : id = rid
    · rw [if_pos hid, if_pos (by rw [hid]), hid, hr]; rfl
    · rw [if_neg hid, if_neg (fun e => hid (Option.some.inj e).symm)]

theorem renameView_spec {c : Ctx} {s : State} (h : ViewsOk c s) {vid : Nat} {v : View} {nq : QName} {x : Str}
    (hv : getView s vid = some v) (ha : v.attached = true) (hk : etreeKey c nq ≠ etreeKey c v.qname)
    (hx : sget s.store (etreeKey c v.qname) = some x) :
    ∃ s', renameView c s vid nq = (s', .unit) ∧
      s'.store = sdel (sset s.store (etreeKey c nq) x) (etreeKey c v.qname) ∧
      (∀ id, getView s' id =
        if id = vid then some { v with qname := nq, detachedValue := some x }
        else if cacheGet s.cache (etreeKey c nq) = some id then
          (getView s id).map (fun r => { r with attached := false, detachedValue := sget s.store (etreeKey c nq) })
        else getView s id) ∧
      ViewsOk c s' := by
  have hcv := h.attached vid v hv ha
  obtain ⟨s0, h0, hst0, hca0, hids0, hgv0, hl0⟩ := supersede_spec h (etreeKey c nq)
  have hv0 : getView s0 vid = some v := by
    rw [hgv0, if_neg, hv]
    intro hg
    obtain ⟨u, hu, -, huk⟩ := h.cached _ _ hg
    cases hv.symm.trans hu
    exact hk huk.symm
  have hgv := getView_putView_eq s0 (w := { v with qname := nq, detachedValue := some x }) hv0 rfl
  rw [renameView_main hv ha hk h0 hids0.1 hv0 (hst0 ▸ hx) (hca0 ▸ hcv)]
  refine ⟨_, rfl, by rw [hst0], fun id => by rw [← hgv0]; exact hgv id, ?_⟩
  rw [viewsOk_iff]
  refine ⟨idsOk_mono (idsOk_of_ids hids0 (putView_ids _ _)) (setItem_nextView_le _ _ _ _), ?_⟩
  refine (hl0.move nq (some x) hv0 ha (if_pos rfl) ?_ fun k hne hs => ?_).congr (fun _ => rfl) (fun k => ?_) hgv
  · show (sget (sdel (sset s0.store (etreeKey c nq) x) (etreeKey c v.qname)) (etreeKey c nq)).isSome = true
    rw [sget_sdel, if_neg hk, sget_sset_self]; rfl
  · show (sget (sdel (sset s0.store (etreeKey c nq) x) (etreeKey c v.qname)) k).isSome = true
    rw [sget_sdel, if_neg hne, hst0]
    exact sset_isSome _ _ _ _ hs
  · show cacheGet (cacheSet (cacheDel (setItem c s0 (.pair nq.1 nq.2) x).cache (etreeKey c v.qname)) (etreeKey c nq) vid) k = _
    rw [cacheGet_cacheSet, cacheGet_cacheDel]
    by_cases hk1 : k = etreeKey c nq
    · simp only [hk1, if_true]
    · rw [if_neg hk1, if_neg hk1, if_neg hk1, cacheGet_setItem_ne (a := .pair nq.1 nq.2) x hk1, hca0]

theorem renameView_cases (c : Ctx) (s : State) (vid : Nat) (nq : QName) :
    (renameView c s vid nq).1 = s ∨
    ∃ v, getView s vid = some v ∧ v.attached = true ∧ etreeKey c nq ≠ etreeKey c v.qname := by
  cases hv : getView s vid with
  | none => rw [renameView_none nq hv]; exact .inl rfl
  | some v =>
    by_cases hq : v.qname = nq
    · subst hq; rw [renameView_same hv]; exact .inl rfl
    · cases ha : v.attached with
      | false => rw [renameView_detached hv hq ha]; exact .inl rfl
      | true =>
        by_cases hk : etreeKey c nq = etreeKey c v.qname
        · rw [renameView_alias hv ha hk]; exact .inl rfl
        · exact .inr ⟨v, rfl, ha, hk⟩

/-- a predicate on states that lookup, assignment and removal preserve -/
structure Closed (c : Ctx) (P : State → Prop) : Prop where
  getItem : ∀ {s}, P s → ∀ a, P (Attrs.getItem c s a).1
  setItem : ∀ {s}, P s → ∀ a x, P (Attrs.setItem c s a x)
  delItem : ∀ {s}, P s → ∀ a, P (Attrs.delItem c s a).1

theorem pop_fst (c : Ctx) (s : State) (a : Accessor) :
    (pop c s a).1 = (getItem c s a).1 ∨ (pop c s a).1 = (delItem c (getItem c s a).1 a).1 := by
  unfold pop
  generalize getItem c s a = r
  obtain ⟨s1, res⟩ := r
  cases res with
  | view vid => exact .inr rfl
  | _ => exact .inl rfl

theorem setDefault_fst (c : Ctx) (s : State) (a : Accessor) (d : Str) :
    (setDefault c s a d).1 = (getItem c s a).1 ∨ (setDefault c s a d).1 = setItem c s a d := by
  unfold setDefault
  generalize getItem c s a = r
  obtain ⟨s1, res⟩ := r
  cases res with
  | view vid => exact .inl rfl
  | _ => exact .inr rfl

namespace Closed
variable {c : Ctx} {P : State → Prop} (H : Closed c P)
include H

theorem update (items : List (Accessor × Str)) {s : State} (h : P s) : P (update c s items) := by
  induction items generalizing s with
  | nil => exact h
  | cons e rest ih => exact ih (H.setItem h e.1 e.2)

theorem pop {s : State} (h : P s) (a : Accessor) : P (pop c s a).1 := by
  rcases pop_fst c s a with e | e
  · rw [e]; exact H.getItem h a
  · rw [e]; exact H.delItem (H.getItem h a) a

theorem setDefault {s : State} (h : P s) (a : Accessor) (d : Str) : P (setDefault c s a d).1 := by
  rcases setDefault_fst c s a d with e | e
  · rw [e]; exact H.getItem h a
  · rw [e]; exact H.setItem h a d

theorem popItem {s : State} (h : P s) : P (popItem c s).1 := by
  unfold Attrs.popItem
  cases iter c s with
  | nil => exact h
  | cons key _ => exact H.pop h _

theorem clearLoop (n : Nat) {s : State} (h : P s) : P (clearLoop c n s) := by
  induction n generalizing s with
  | zero => exact h
  | succ n ih =>
    unfold Attrs.clearLoop
    have h1 := H.popItem h
    generalize Attrs.popItem c s = r at h1
    obtain ⟨s1, k, res⟩ := r
    cases k with
    | none => exact h
    | some q =>
      cases res with
      | view vid => exact ih h1
      | _ => exact h

end Closed

theorem viewsOk_closed (c : Ctx) : Closed c (ViewsOk c) :=
  ⟨ViewsOk.getItem, ViewsOk.setItem, ViewsOk.delItem⟩

theorem ViewsOk.update {c : Ctx} (items : List (Accessor × Str)) {s : State} (h : ViewsOk c s) :
    ViewsOk c (update c s items) := (viewsOk_closed c).update items h

theorem ViewsOk.setDefault {c : Ctx} {s : State} (h : ViewsOk c s) (a : Accessor) (d : Str) :
    ViewsOk c (setDefault c s a d).1 := (viewsOk_closed c).setDefault h a d

theorem ViewsOk.clear {c : Ctx} {s : State} (h : ViewsOk c s) : ViewsOk c (clear c s) :=
  (viewsOk_closed c).clearLoop _ h

theorem viewsOk_empty (c : Ctx) (st : Store) (n : Nat) : ViewsOk c ⟨st, [], [], n⟩ := by
  refine ⟨by simp, by simp, ?_, ?_, ?_, ?_⟩
  · intro k id h; simp [cacheGet] at h
  · intro id v h; simp [getView] at h
  · intro k id h; simp [cacheGet] at h
  · intro id v h; simp [getView] at h

theorem storeOk_setItem {c : Ctx} {s : State} (hok : storeOk c s.store) (a : Accessor) (x : Str) :
    storeOk c (setItem c s a x).store := by
  rw [setItem_store]; exact storeOk_sset hok _ _

theorem Inv.renameView {c : Ctx} {s : State} (h : Inv c s) (vid : Nat) (nq : QName) :
    Inv c (renameView c s vid nq).1 := by
  rcases renameView_cases c s vid nq with e | ⟨v, hv, ha, hk⟩
  · rw [e]; exact h
  · obtain ⟨x, hx, -⟩ := h.2.viewValue hv ha
    obtain ⟨s', hr, hst, -, h'⟩ := renameView_spec h.2 hv ha hk hx
    rw [hr]
    refine ⟨?_, h'⟩
    show storeOk c s'.store
    rw [hst]
    exact storeOk_sdel (storeOk_sset h.1 _ _) _

theorem Inv.getItem {c : Ctx} {s : State} (h : Inv c s) (a : Accessor) : Inv c (getItem c s a).1 :=
  ⟨by rw [getItem_store]; exact h.1, h.2.getItem a⟩

theorem Inv.setItem {c : Ctx} {s : State} (h : Inv c s) (a : Accessor) (x : Str) : Inv c (setItem c s a x) :=
  ⟨storeOk_setItem h.1 a x, h.2.setItem a x⟩

theorem Inv.delItem {c : Ctx} {s : State} (h : Inv c s) (a : Accessor) : Inv c (delItem c s a).1 := by
  refine ⟨?_, h.2.delItem a⟩
  cases hc : contains c s a with
  | false => rw [delItem_keyError hc]; exact h.1
  | true =>
    obtain ⟨s', hd, hst, -⟩ := delItem_spec h.2 hc
    rw [hd]
    show storeOk c s'.store
    rw [hst]
    exact storeOk_sdel h.1 _

theorem Inv.viewSetValue {c : Ctx} {s : State} (h : Inv c s) (vid : Nat) (x : Str) :
    Inv c (viewSetValue c s vid x) := by
  cases hv : getView s vid with
  | none => rw [viewSetValue_none x hv]; exact h
  | some v =>
    cases ha : v.attached with
    | true =>
      rw [viewSetValue_attached x hv ha]
      exact ⟨storeOk_sset h.1 _ _, h.2.storeState _ (sset_isSome _ _ _)⟩
    | false =>
      rw [viewSetValue_detached x hv ha]
      have h2 := viewsOk_iff.1 h.2
      exact ⟨h.1, viewsOk_iff.2 ⟨idsOk_of_ids h2.1 (putView_ids _ _),
        (h2.2.setDetached x hv ha).congr (fun _ => rfl) (fun _ => rfl) (getView_putView_eq s hv rfl)⟩⟩

theorem inv_closed (c : Ctx) : Closed c (Inv c) := ⟨Inv.getItem, Inv.setItem, Inv.delItem⟩

theorem Inv.update {c : Ctx} (items : List (Accessor × Str)) {s : State} (h : Inv c s) : Inv c (update c s items) :=
  (inv_closed c).update items h

theorem etreeKey_eq_iff (c : Ctx) (q₁ q₂ : QName) : etreeKey c q₁ = etreeKey c q₂ ↔ canon c q₁ = canon c q₂ :=
  ⟨fun h => by rw [← unkey_etreeKey, ← unkey_etreeKey, h], fun h => by rw [etreeKey_eq, etreeKey_eq, h]⟩

theorem dictDel_dictSet_comm (d : Dict) {n o : QName} (x : Str) (hne : n ≠ o) :
    dictDel (dictSet d n x) o = dictSet (dictDel d o) n x := by
  rw [dictDel_eq_del, dictSet_eq_set]; exact Assoc.del_set_comm d x hne

theorem sget_of_mem {st : Store} (hn : (st.map (·.1)).Nodup) {k : Key} {v : Str} (h : (k, v) ∈ st) :
    sget st k = some v := by
  rw [sget_eq_get]; exact Assoc.get_of_mem hn h

theorem mem_of_sget {st : Store} {k : Key} {v : Str} (h : sget st k = some v) : (k, v) ∈ st := by
  rw [sget_eq_get] at h; exact Assoc.mem_of_get h

theorem sameValue_eq_true (a b : Option Str) : sameValue a b = true ↔ ∃ x, a = some x ∧ b = some x := by
  cases a with
  | none => simp [sameValue]
  | some x =>
    cases b with
    | none => simp [sameValue]
    | some y => simpa [sameValue] using eq_comm

theorem iter_eq (c : Ctx) (s : State) : iter c s = (reportedDict c s.store).map (·.1) := by
  unfold iter reportedDict
  rw [List.map_map]
  rfl

theorem mem_reportedDict_iff {c : Ctx} {st : Store} (hok : storeOk c st) (q : QName) (v : Str) :
    (q, v) ∈ reportedDict c st ↔
      q ∈ (reportedDict c st).map (·.1) ∧ sget st (etreeKey c q) = some v := by
  unfold reportedDict
  constructor
  · intro h
    obtain ⟨⟨k, v'⟩, he, heq⟩ := List.mem_map.1 h
    simp only [Prod.mk.injEq] at heq
    obtain ⟨rfl, rfl⟩ := heq
    refine ⟨List.mem_map.2 ⟨(iterName c k, v'), h, rfl⟩, ?_⟩
    rw [etreeKey_iterName (hok.1 _ he)]
    exact sget_of_mem hok.2 he
  · rintro ⟨h1, h2⟩
    obtain ⟨⟨q', v'⟩, he, rfl⟩ := List.mem_map.1 h1
    obtain ⟨⟨k, v''⟩, hk, heq⟩ := List.mem_map.1 he
    simp only [Prod.mk.injEq] at heq
    obtain ⟨rfl, rfl⟩ := heq
    simp only at h2
    rw [etreeKey_iterName (hok.1 _ hk), sget_of_mem hok.2 hk] at h2
    cases h2
    exact he

theorem reportedDict_keys_nodup {c : Ctx} {st : Store} (hok : storeOk c st) :
    ((reportedDict c st).map (·.1)).Nodup := by
  have : (reportedDict c st).map (·.1) = (st.map (·.1)).map (iterName c) := by
    unfold reportedDict
    rw [List.map_map, List.map_map]
    rfl
  rw [this]
  refine nodup_map_of_injOn (fun k hk k' hk' e => ?_) hok.2
  obtain ⟨e₁, he₁, rfl⟩ := List.mem_map.1 hk
  obtain ⟨e₂, he₂, rfl⟩ := List.mem_map.1 hk'
  rw [← etreeKey_iterName (hok.1 e₁ he₁), e, etreeKey_iterName (hok.1 e₂ he₂)]

theorem split_at_brace (a l : List Char) (h : '}' ∉ a) :
    (a ++ '}' :: l).takeWhile (· != '}') = a ∧ (a ++ '}' :: l).dropWhile (· != '}') = '}' :: l := by
  induction a with
  | nil => simp
  | cons c cs ih =>
    have hc : c ≠ '}' := fun e => h (e ▸ List.mem_cons_self)
    have hcs : '}' ∉ cs := fun m => h (List.mem_cons_of_mem _ m)
    obtain ⟨h1, h2⟩ := ih hcs
    simp [hc, h1, h2]

theorem deconstructClark_clark (ns l : String) (h : '}' ∉ ns.toList) :
    deconstructClark ("{" ++ ns ++ "}" ++ l) = some (some ns, l) := by
  unfold deconstructClark
  have e : ("{" ++ ns ++ "}" ++ l).toList = '{' :: (ns.toList ++ '}' :: l.toList) := by
    simp [String.toList_append]
  rw [e]
  obtain ⟨h1, h2⟩ := split_at_brace ns.toList l.toList h
  simp only [h1, h2]
  simp

theorem deconstructClark_plain (n : String) (h : n.toList.head? ≠ some '{') :
    deconstructClark n = some (none, n) := by
  unfold deconstructClark
  cases hn : n.toList with
  | nil => rfl
  | cons c cs =>
    have hc : c ≠ '{' := by
      intro e; apply h; rw [hn, e]; rfl
    split
    · rename_i rest heq
      cases heq
      exact absurd rfl hc
    · rfl

/-! ## fixtures of the non-vacuity examples in `Props/C11.lean`

An element `<e xmlns="urn:u" xmlns:q="urn:q" a="1" q:b="2"/>`: the default namespace is the element's. -/

def exCtx : Ctx := { nodeNs := "urn:u", defaultNs := "urn:u" }
def exStore : Store := [((none, "a"), ['1']), ((some "urn:q", "b"), ['2'])]
def exInit : State := ⟨exStore, [], [], 0⟩
/-- after `A["a"]` and `A["{urn:q}b"]`: two attribute objects are held -/
def exHeld : State := (getItem exCtx (getItem exCtx exInit (.local_ "a")).1 (.clark "urn:q" "b")).1
/-- after `del A[("", "a")]` (the other spelling of `a`) -/
def exRemoved : State := (delItem exCtx exHeld (.pair "" "a")).1

theorem exStore_ok : storeOk exCtx exStore := by
  refine ⟨?_, by decide⟩
  intro e he ns hns
  simp only [exStore, List.mem_cons, List.not_mem_nil, or_false] at he
  rcases he with rfl | rfl
  · cases hns
  · cases hns; exact ⟨by decide, by decide⟩

theorem ex_reachable : Reachable exCtx exInit ∧ Reachable exCtx exHeld ∧ Reachable exCtx exRemoved := by
  have h0 : Reachable exCtx exInit := .init _ _ exStore_ok
  have h1 : Reachable exCtx exHeld := .getItem _ (.getItem _ h0)
  exact ⟨h0, h1, .delItem _ h1⟩

end Delb.Attrs
