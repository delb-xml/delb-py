import DelbModel.Model.XPath.Eval
import DelbModel.Lemmas.LocationPath
import DelbModel.Lemmas.XPath
/-! for `c14_parse_location_path_partial` (Props/C14.lean): tokenizing and parsing the string `/*` ++ `/*[k]`...

Only the tokenizer ties the tokens of the pieces `/*[k]` to offsets in the string (`lppOffs`); the later stages work for
pieces at any offsets.  A number is refused when its digit string is longer than `Gen.intMaxStrDigits` (`lppFits` says
that it is not), so `parse` yields the expression when every index fits and "Number literal is too long." otherwise; a
tree with `10 ^ Gen.intMaxStrDigits` tag children is the counterexample to the unconditional statement.
-/
namespace Delb.XPath
open Delb.Edit

/-- a property of the ten ASCII digits, checked one by one -/
theorem forall_digit {P : Char → Prop} (h : ∀ i < 10, P (Char.ofNat (48 + i))) {c : Char}
    (hc : c.isDigit = true) : P c := by
  rw [Char.isDigit_iff_toNat] at hc
  have h48 : '0'.toNat = 48 := rfl
  have h57 : '9'.toNat = 57 := rfl
  have := h (c.toNat - 48) (by omega)
  rwa [show 48 + (c.toNat - 48) = c.toNat by omega, Char.ofNat_toNat] at this

theorem isDigit_of_digit {c : Char} (hc : c.isDigit = true) : isDigit c = true :=
  forall_digit (P := fun c => isDigit c = true) (by decide +kernel) hc

theorem isDelim_of_digit {c : Char} (hc : c.isDigit = true) : isDelim c = false :=
  forall_digit (P := fun c => isDelim c = false) (by decide +kernel) hc

theorem digitValue_of_digit {c : Char} (hc : c.isDigit = true) :
    digitValue c Gen.tokDigitValues = c.toNat - '0'.toNat :=
  forall_digit (P := fun c => digitValue c Gen.tokDigitValues = c.toNat - '0'.toNat) (by decide +kernel) hc

theorem intOfDigits_eq_ofDigitChars (ds : List Char) (hds : ∀ c ∈ ds, c.isDigit = true) :
    intOfDigits ds = Nat.ofDigitChars 10 ds 0 := by
  unfold intOfDigits Nat.ofDigitChars
  generalize 0 = init
  induction ds generalizing init with
  | nil => rfl
  | cons d ds ih =>
    simp only [List.foldl_cons, digitValue_of_digit (hds d (by simp))]
    rw [ih (fun c hc => hds c (List.mem_cons_of_mem _ hc)), Nat.mul_comm]

theorem intOfDigits_toDigits (n : Nat) : intOfDigits (Nat.toDigits 10 n) = n := by
  rw [intOfDigits_eq_ofDigitChars _ (fun c hc => Nat.isDigit_of_mem_toDigits (by decide) (by decide) hc)]
  exact Nat.ofDigitChars_ten_toDigits

theorem isPrefixOf_append_known (lit pre rest : List Char)
    (h : lit.length ≤ pre.length ∨ pre.isPrefixOf lit = false) :
    lit.isPrefixOf (pre ++ rest) = lit.isPrefixOf pre := by
  induction lit generalizing pre with
  | nil => simp
  | cons a lit ih =>
    cases pre with
    | nil => simp at h
    | cons b pre =>
      by_cases hab : a = b
      · subst hab
        simpa using ih pre (by simpa using h)
      · have : (a == b) = false := by simpa using hab
        simp [List.isPrefixOf, this]

theorem matchLiteral_append_known (pre rest : List Char) (tbl : List (List Char × String))
    (h : ∀ e ∈ tbl, e.1.length ≤ pre.length ∨ pre.isPrefixOf e.1 = false) :
    matchLiteral (pre ++ rest) tbl = matchLiteral pre tbl := by
  induction tbl with
  | nil => rfl
  | cons e tbl ih =>
    simp only [matchLiteral, isPrefixOf_append_known e.1 pre rest (h e (by simp)),
      ih (fun e' he' => h e' (by simp [he']))]

theorem tokenizeAux_token {fuel idx : Nat} {w rest : List Char} {ty : TokType} (hw : w ≠ [])
    (hg : grab (w ++ rest) = some (w.length, ty)) (hty : ty ≠ .WHITESPACE) :
    tokenizeAux (fuel + 1) idx (w ++ rest) =
      (tokenizeAux fuel (idx + w.length) rest).map ({ pos := idx, str := w, type := ty } :: ·) := by
  cases w with
  | nil => exact absurd rfl hw
  | cons c w =>
    rw [List.cons_append, tokenizeAux, ← List.cons_append, hg]
    simp only [List.drop_left, List.take_left, if_neg hty]
    cases tokenizeAux fuel (idx + (c :: w).length) rest <;> rfl

theorem tokenizeAux_char {fuel idx : Nat} {c : Char} {rest : List Char} {ty : TokType}
    (hg : grab (c :: rest) = some (1, ty)) (hty : ty ≠ .WHITESPACE) :
    tokenizeAux (fuel + 1) idx (c :: rest) =
      (tokenizeAux fuel (idx + 1) rest).map ({ pos := idx, str := [c], type := ty } :: ·) :=
  tokenizeAux_token (w := [c]) (List.cons_ne_nil _ _) hg hty

theorem lpp_grab_number (ds rest : List Char) (hne : ds ≠ []) (hds : ∀ c ∈ ds, c.isDigit = true) :
    grab (ds ++ ']' :: rest) = some (ds.length, .NUMBER) := by
  cases ds with
  | nil => exact absurd rfl hne
  | cons d ds =>
    have hd := hds d (by simp)
    have hrun : (ds ++ ']' :: rest).takeWhile isDigit = ds := by
      rw [List.takeWhile_append_of_pos (fun c hc => isDigit_of_digit (hds c (List.mem_cons_of_mem _ hc))),
        List.takeWhile_cons_of_neg (by decide), List.append_nil]
    simp only [List.cons_append, grab, isDelim_of_digit hd, isDigit_of_digit hd, if_true, hrun,
      List.length_cons]
    simp [Nat.add_comm]

/-- the punctuation of a location path: the character, the characters behind it that decide the lookup in the
    literal table (`/` is read before `*`), the token type -/
def lppPunct : List (Char × List Char × TokType) :=
  [('/', ['*'], .SLASH), ('*', [], .ASTERISK), ('[', [], .OPEN_BRACKET), (']', [], .CLOSE_BRACKET)]

theorem lpp_punct_spec : ∀ x ∈ lppPunct,
    (isDelim x.1 || isDigit x.1 || isNameStart x.1) = false ∧
    (∀ e ∈ Gen.tokLiterals, e.1.length ≤ (x.1 :: x.2.1).length ∨ (x.1 :: x.2.1).isPrefixOf e.1 = false) ∧
    matchLiteral (x.1 :: x.2.1) Gen.tokLiterals = some (1, x.2.2) := by
  decide +kernel

theorem lpp_grab_punct (c : Char) (pre : List Char) (ty : TokType) (hx : (c, pre, ty) ∈ lppPunct)
    (rest : List Char) : grab (c :: (pre ++ rest)) = some (1, ty) := by
  obtain ⟨hc, h, hm⟩ := lpp_punct_spec _ hx
  simp only [Bool.or_eq_false_iff] at hc
  have := matchLiteral_append_known (c :: pre) rest _ h
  simp only [List.cons_append] at this
  simp [grab, hc.1.1, hc.1.2, hc.2, this, hm]

theorem lpp_grab_slash_ast (rest : List Char) : grab ('/' :: '*' :: rest) = some (1, .SLASH) :=
  lpp_grab_punct '/' ['*'] _ (by decide) rest

theorem lpp_grab_asterisk (rest : List Char) : grab ('*' :: rest) = some (1, .ASTERISK) :=
  lpp_grab_punct '*' [] _ (by decide) rest

theorem lpp_grab_open (rest : List Char) : grab ('[' :: rest) = some (1, .OPEN_BRACKET) :=
  lpp_grab_punct '[' [] _ (by decide) rest

theorem lpp_grab_close (rest : List Char) : grab (']' :: rest) = some (1, .CLOSE_BRACKET) :=
  lpp_grab_punct ']' [] _ (by decide) rest

@[simp] def tkSlash (pos : Nat) : Token := { pos := pos, str := ['/'], type := .SLASH }
@[simp] def tkAst (pos : Nat) : Token := { pos := pos, str := ['*'], type := .ASTERISK }
@[simp] def tkOpen (pos : Nat) : Token := { pos := pos, str := ['['], type := .OPEN_BRACKET }
@[simp] def tkNum (pos k : Nat) : Token := { pos := pos, str := Nat.toDigits 10 (k + 1), type := .NUMBER }
@[simp] def tkClose (pos : Nat) : Token := { pos := pos, str := [']'], type := .CLOSE_BRACKET }

/-- the pieces `/*[k+1]`, each with the offset of its `/`, the first at `off` -/
def lppOffs (off : Nat) : List Nat → List (Nat × Nat)
  | [] => []
  | k :: ks => (off, k) :: lppOffs (off + 3 + (Nat.toDigits 10 (k + 1)).length + 1) ks

theorem lppOffs_snd (ks : List Nat) : ∀ off, (lppOffs off ks).map (·.2) = ks := by
  induction ks with
  | nil => intro off; rfl
  | cons k ks ih => intro off; rw [lppOffs, List.map_cons, ih]

/-- the tokens of the piece `/*[k+1]` at offset `off`, as `(off, k)` -/
def lppPieceToks (ok : Nat × Nat) : List Token :=
  [tkSlash ok.1, tkAst (ok.1 + 1), tkOpen (ok.1 + 2), tkNum (ok.1 + 3) ok.2,
   tkClose (ok.1 + 3 + (Nat.toDigits 10 (ok.2 + 1)).length)]

theorem lpp_tokenizeAux_piece (fuel off k : Nat) (rest : List Char) :
    tokenizeAux (fuel + 5) off (idxPiece k ++ rest) =
      (tokenizeAux fuel (off + 3 + (Nat.toDigits 10 (k + 1)).length + 1) rest).map (lppPieceToks (off, k) ++ ·) := by
  have hdig : ∀ c ∈ Nat.toDigits 10 (k + 1), c.isDigit = true :=
    fun c hc => Nat.isDigit_of_mem_toDigits (by decide) (by decide) hc
  rw [idxPiece_eq]
  simp only [List.cons_append, List.append_assoc, List.nil_append]
  rw [tokenizeAux_char (lpp_grab_slash_ast _) (by decide), tokenizeAux_char (lpp_grab_asterisk _) (by decide),
    tokenizeAux_char (lpp_grab_open _) (by decide),
    tokenizeAux_token Nat.toDigits_ne_nil (lpp_grab_number _ _ Nat.toDigits_ne_nil hdig) (by decide),
    tokenizeAux_char (lpp_grab_close _) (by decide)]
  cases tokenizeAux fuel (off + 1 + 1 + 1 + (Nat.toDigits 10 (k + 1)).length + 1) rest <;> rfl

theorem lpp_tokenizeAux (ks : List Nat) : ∀ (fuel off : Nat), ((ks.map idxPiece).flatten).length < fuel →
    tokenizeAux fuel off ((ks.map idxPiece).flatten) = .ok ((lppOffs off ks).flatMap lppPieceToks) := by
  induction ks with
  | nil => intro fuel off _; cases fuel <;> rfl
  | cons k ks ih =>
    intro fuel off hf
    have hpos := Nat.length_toDigits_pos (b := 10) (n := k + 1)
    simp only [List.map_cons, List.flatten_cons, List.length_append, idxPiece_eq, List.length_cons,
      List.length_nil] at hf
    obtain ⟨f, rfl⟩ : ∃ f, fuel = f + 5 := ⟨fuel - 5, by omega⟩
    rw [List.map_cons, List.flatten_cons, lpp_tokenizeAux_piece, ih f _ (by omega)]
    rfl

theorem lpp_tokenize (ks : List Nat) :
    tokenize ("/*".toList ++ (ks.map idxPiece).flatten) =
      .ok (tkSlash 0 :: tkAst 1 :: (lppOffs 2 ks).flatMap lppPieceToks) := by
  have e : "/*".toList ++ (ks.map idxPiece).flatten = '/' :: '*' :: (ks.map idxPiece).flatten := rfl
  rw [e, tokenize, List.length_cons, List.length_cons,
    tokenizeAux_char (lpp_grab_slash_ast _) (by decide), tokenizeAux_char (lpp_grab_asterisk _) (by decide),
    lpp_tokenizeAux ks _ _ (Nat.lt_succ_self _)]
  rfl

/-- the tokens of one step `*[k+1]` whose `/` is at `ok.1` -/
def lppStepTTs (ok : Nat × Nat) : List TT :=
  [.tok (tkAst (ok.1 + 1)),
   .tok (tkOpen (ok.1 + 2)),
   .group [.tok (tkNum (ok.1 + 3) ok.2)],
   .tok (tkClose (ok.1 + 3 + (Nat.toDigits 10 (ok.2 + 1)).length))]

def lppPieceTTs (ok : Nat × Nat) : List TT := .tok (tkSlash ok.1) :: lppStepTTs ok

theorem lpp_groupAux_piece (ok : Nat × Nat) (ts : List Token) (acc : List TT) :
    groupAux (lppPieceToks ok ++ ts) [] acc = groupAux ts [] ((lppPieceTTs ok).reverse ++ acc) := by rfl

theorem lpp_groupAux (oks : List (Nat × Nat)) (acc : List TT) :
    groupAux (oks.flatMap lppPieceToks) [] acc = .ok (acc.reverse ++ oks.flatMap lppPieceTTs) := by
  induction oks generalizing acc with
  | nil => simp [groupAux]
  | cons ok oks ih =>
    rw [List.flatMap_cons, lpp_groupAux_piece, ih]
    simp

def lppAllTTs (oks : List (Nat × Nat)) : List TT := .tok (tkSlash 0) :: .tok (tkAst 1) :: oks.flatMap lppPieceTTs

theorem lpp_groupEnclosed (oks : List (Nat × Nat)) :
    groupEnclosed (tkSlash 0 :: tkAst 1 :: oks.flatMap lppPieceToks) = .ok (lppAllTTs oks) :=
  lpp_groupAux oks [.tok (tkAst 1), .tok (tkSlash 0)]

theorem lpp_expandAxes (oks : List (Nat × Nat)) : expandAxes (oks.flatMap lppPieceTTs) = oks.flatMap lppPieceTTs := by
  induction oks with
  | nil => rfl
  | cons ok oks ih => simp [lppPieceTTs, lppStepTTs, expandOne, ih]

theorem lpp_any_paseq (oks : List (Nat × Nat)) : (oks.flatMap lppPieceTTs).any (isSep .PASEQ) = false := by
  induction oks with
  | nil => rfl
  | cons ok oks ih => simp [lppPieceTTs, lppStepTTs, isSep, tokType_beq, ih]

theorem lpp_partitionAux (oks : List (Nat × Nat)) (cur : List TT) (hcur : cur ≠ []) :
    partitionAux .SLASH cur (oks.flatMap lppPieceTTs) = cur.reverse :: oks.map lppStepTTs := by
  induction oks generalizing cur with
  | nil => rfl
  | cons ok oks ih =>
    obtain ⟨c, cur, rfl⟩ := List.exists_cons_of_ne_nil hcur
    show (c :: cur).reverse :: partitionAux .SLASH (lppStepTTs ok).reverse (oks.flatMap lppPieceTTs) = _
    rw [ih (lppStepTTs ok).reverse (List.cons_ne_nil _ _), List.reverse_reverse]
    rfl

/-- the printed index `k + 1` passes the length check of `int()` -/
def lppFits (k : Nat) : Prop := Gen.intMaxStrDigits = 0 ∨ k + 1 < 10 ^ Gen.intMaxStrDigits

instance (k : Nat) : Decidable (lppFits k) := by unfold lppFits; infer_instance

theorem lpp_fits_iff (k : Nat) :
    lppFits k ↔ ¬(Gen.intMaxStrDigits ≠ 0 ∧ (Nat.toDigits 10 (k + 1)).length > Gen.intMaxStrDigits) := by
  unfold lppFits
  generalize Gen.intMaxStrDigits = m
  by_cases h0 : m = 0
  · simp [h0]
  · rw [← Nat.length_toDigits_le_iff (by decide) (by omega)]
    omega

theorem lpp_mkFunc_position : mkFunc "position".toList [] = .ok (.func "position".toList []) := by rfl

theorem lpp_parseExpr_num (fuel p : Nat) (s : Str) :
    parseExpr (fuel + 1) [.tok { pos := p, str := s, type := .NUMBER }] =
      if Gen.intMaxStrDigits ≠ 0 ∧ s.length > Gen.intMaxStrDigits then
        .error (.parsing (some p) "Number literal is too long.")
      else .ok (.num (intOfDigits s)) := by
  simp [parseExpr, allMatch, comparePattern, getTok]

theorem lpp_parsePreds (n fuel p q r k : Nat) :
    parsePreds (n + 1) (fuel + 1) [.tok (tkOpen q), .group [.tok (tkNum p k)], .tok (tkClose r)] =
      if lppFits k then .ok [.binop "=" (.func "position".toList []) (.num (k + 1))]
      else .error (.parsing (some p) "Number literal is too long.") := by
  have hm : initialMatch [.tok (tkOpen q), .group [.tok (tkNum p k)], .tok (tkClose r)]
      [some .OPEN_BRACKET, none, some .CLOSE_BRACKET] = true := rfl
  rw [parsePreds, if_pos hm]
  simp only [tkNum, getGroup, List.getElem?_cons_succ, List.getElem?_cons_zero, lpp_parseExpr_num]
  by_cases h : lppFits k
  · rw [if_pos h, if_neg ((lpp_fits_iff k).1 h)]
    simp only [intOfDigits_toDigits, lpp_mkFunc_position, List.drop_succ_cons, List.drop_zero, parsePreds]
  · rw [if_neg h, if_pos (Classical.not_not.1 (mt (lpp_fits_iff k).2 h))]

theorem lpp_initialMatch_ne (t : Token) (rest : List TT) (ty : TokType) (ps : Pattern) (h : t.type ≠ ty) :
    initialMatch (.tok t :: rest) (some ty :: ps) = false := by
  simp [initialMatch, comparePattern, tokType_beq, h]

theorem lpp_parseStep_asterisk (fuel : Nat) (t : Token) (rest : List TT) (ht : t.type = .ASTERISK) :
    parseStep fuel (.tok t :: rest) =
      match parsePreds (rest.length + 1) fuel rest with
      | .error e => .error e
      | .ok preds => .ok { axis := "child", test := .anyName none, preds := preds } := by
  have hne : t.type ≠ .NAME := by rw [ht]; decide
  have h6 : initialMatch (.tok t :: rest) [some .ASTERISK] = true := by simp [initialMatch, comparePattern, ht]
  unfold parseStep
  simp only [List.isEmpty_cons, Bool.false_eq_true, if_false, lpp_initialMatch_ne t rest .NAME _ hne, h6,
    Bool.or_self, if_true, List.drop_succ_cons, List.drop_zero]
  cases parsePreds (rest.length + 1) fuel rest <;> rfl

theorem lpp_parseStep_first (fuel p : Nat) : parseStep fuel [.tok (tkAst p)] = .ok rootStep := by
  rw [lpp_parseStep_asterisk fuel _ [] rfl]
  rfl

theorem lpp_parseStep (fuel : Nat) (ok : Nat × Nat) :
    parseStep (fuel + 1) (lppStepTTs ok) =
      if lppFits ok.2 then .ok (idxStep ok.2)
      else .error (.parsing (some (ok.1 + 3)) "Number literal is too long.") := by
  rw [lppStepTTs, lpp_parseStep_asterisk _ _ _ rfl, lpp_parsePreds]
  by_cases hk : lppFits ok.2
  · rw [if_pos hk, if_pos hk]; rfl
  · rw [if_neg hk, if_neg hk]

theorem lpp_parseSteps (fuel : Nat) (oks : List (Nat × Nat)) :
    parseSteps (fuel + 1) (oks.map lppStepTTs) =
      match oks.find? (fun ok => decide ¬lppFits ok.2) with
      | some ok => .error (.parsing (some (ok.1 + 3)) "Number literal is too long.")
      | none => .ok ((oks.map (·.2)).map idxStep) := by
  induction oks with
  | nil => rfl
  | cons ok oks ih =>
    rw [List.map_cons, parseSteps, lpp_parseStep, ih]
    by_cases h : lppFits ok.2
    · rw [if_pos h, List.find?_cons_of_neg (by simpa using h)]
      cases oks.find? _ <;> rfl
    · rw [if_neg h, List.find?_cons_of_pos (by simpa using h)]

theorem lpp_parsePath (fuel : Nat) (oks : List (Nat × Nat)) :
    parsePath (fuel + 1) (lppAllTTs oks) =
      match parseSteps (fuel + 1) (oks.map lppStepTTs) with
      | .error e => .error e
      | .ok steps => .ok { absolute := true, steps := rootStep :: steps } := by
  have hp : partitionTokens .SLASH (lppAllTTs oks) = [.tok (tkAst 1)] :: oks.map lppStepTTs :=
    lpp_partitionAux oks [.tok (tkAst 1)] (List.cons_ne_nil _ _)
  have h0 := lpp_parseStep_first (fuel + 1) 1
  simp only [tkSlash, tkAst, lppAllTTs] at hp h0 ⊢
  simp only [parsePath, List.isEmpty_cons, Bool.false_eq_true, if_false, expandAxes_tok, expandOne,
    List.cons_append, List.nil_append, lpp_expandAxes, List.head?_cons, hp, parseSteps, h0]
  cases parseSteps (fuel + 1) (oks.map lppStepTTs) <;> rfl

theorem lpp_parse_eq (ks : List Nat) :
    parse ("/*".toList ++ (ks.map idxPiece).flatten) =
      match (lppOffs 2 ks).find? (fun ok => decide ¬lppFits ok.2) with
      | some ok => .error (.parsing (some (ok.1 + 3)) "Number literal is too long.")
      | none => .ok [{ absolute := true, steps := rootStep :: ks.map idxStep }] := by
  have hany : (lppAllTTs (lppOffs 2 ks)).any (isSep .PASEQ) = false := by
    rw [lppAllTTs, List.any_cons, List.any_cons, lpp_any_paseq]
    rfl
  rw [parse, lpp_tokenize]
  dsimp only
  rw [lpp_groupEnclosed]
  dsimp only
  rw [hany, if_neg Bool.false_ne_true, parsePaths, lpp_parsePath, lpp_parseSteps, lppOffs_snd]
  cases (lppOffs 2 ks).find? _ <;> rfl

theorem lpp_parse_ok (ks : List Nat) (h : ∀ k ∈ ks, lppFits k) :
    parse ("/*".toList ++ (ks.map idxPiece).flatten) =
      .ok [{ absolute := true, steps := rootStep :: ks.map idxStep }] := by
  rw [lpp_parse_eq, List.find?_eq_none.2 fun ok hok => by
    simpa using h ok.2 (lppOffs_snd ks 2 ▸ List.mem_map_of_mem hok)]

theorem lpp_parse_error (ks : List Nat) (h : ¬ ∀ k ∈ ks, lppFits k) :
    ∃ pos, parse ("/*".toList ++ (ks.map idxPiece).flatten) =
      .error (.parsing (some pos) "Number literal is too long.") := by
  rw [lpp_parse_eq]
  cases hf : (lppOffs 2 ks).find? _ with
  | some ok => exact ⟨_, rfl⟩
  | none =>
    refine absurd (fun k hk => ?_) h
    rw [← lppOffs_snd ks 2] at hk
    obtain ⟨ok, hok, rfl⟩ := List.mem_map.1 hk
    simpa using List.find?_eq_none.1 hf ok hok

theorem lpp_tagIndex_le (root : PTree) (pre : List Nat) (i : Nat) : tagIndex root pre i ≤ i := by
  unfold tagIndex
  cases getAtP root pre with
  | none => exact Nat.zero_le _
  | some t =>
    exact Nat.le_trans (List.length_filter_le _ _) (by rw [List.length_take]; exact Nat.min_le_left _ _)

theorem lpp_tagIdxs_le (root : PTree) (p : List Nat) : ∀ (pre : List Nat) (k : Nat), k ∈ tagIdxs root pre p →
    ∃ i ∈ p, k ≤ i := by
  induction p with
  | nil => intro pre k hk; simp [tagIdxs] at hk
  | cons i p ih =>
    intro pre k hk
    simp only [tagIdxs, List.mem_cons] at hk
    rcases hk with rfl | hk
    · exact ⟨i, by simp, lpp_tagIndex_le root pre i⟩
    · obtain ⟨j, hj, hkj⟩ := ih _ k hk
      exact ⟨j, List.mem_cons_of_mem _ hj, hkj⟩

/-! ## the counterexample: a node with `n` tag children, the last of them -/

def lppWide (n : Nat) : PTree := .tag 0 "" "r" [] (List.replicate n (.tag 1 "" "a" [] []))

theorem lpp_wide_tagPath (n : Nat) : tagPath (lppWide (n + 1)) [n] = true := by
  simp [tagPath, lppWide, getAtP]

theorem lpp_wide_tagIdxs (n : Nat) : tagIdxs (lppWide (n + 1)) [] [n] = [n] := by
  have hf : ∀ m, (List.replicate m (PTree.tag 1 "" "a" [] [])).filter PTree.isTag =
      List.replicate m (PTree.tag 1 "" "a" [] []) := by
    intro m
    rw [List.filter_eq_self]
    intro a ha
    rw [(List.mem_replicate.1 ha).2]
    rfl
  simp [tagIdxs, tagIndex, lppWide, getAtP, PTree.kids, List.take_replicate, hf]

theorem lpp_wide_error (h : Gen.intMaxStrDigits ≠ 0) :
    tagPath (lppWide (10 ^ Gen.intMaxStrDigits - 1 + 1)) [10 ^ Gen.intMaxStrDigits - 1] = true ∧
    ∃ pos, parse (locationPath (lppWide (10 ^ Gen.intMaxStrDigits - 1 + 1)) [10 ^ Gen.intMaxStrDigits - 1]) =
      .error (.parsing (some pos) "Number literal is too long.") := by
  refine ⟨lpp_wide_tagPath _, ?_⟩
  rw [locationPath_eq, lpp_wide_tagIdxs]
  refine lpp_parse_error _ fun hall => ?_
  have := hall (10 ^ Gen.intMaxStrDigits - 1) (by simp)
  have hpos : 0 < 10 ^ Gen.intMaxStrDigits := Nat.pow_pos (by decide)
  unfold lppFits at this
  omega

end Delb.XPath
