import DelbModel.Model.Whitespace
/-!
# Whitespace reduction (`Model/Whitespace.lean`)

Strings: a collapsed string has one of three shapes (`Shape`), and on each of them the four-rule table of
`_reduce_whitespace_content` agrees with collapse-then-trim.  Trees, for any content reduction `rc` with the matching
property of strings: each `…_reduce_all` is a `node_induct` around a lemma about `reduceTexts` on one child list.
-/
namespace Delb.WS

/-! ## string level -/

def OnlySp (ws : Char → Bool) (s : Str) : Prop := ∀ c ∈ s, ws c = true → c = ' '

def NoDbl : Str → Prop
  | a :: b :: rest => ¬(a = ' ' ∧ b = ' ') ∧ NoDbl (b :: rest)
  | _ => True

/-- Nothing but whitespace; `Pretty.AllWs s` is `Blank pyWs s`, `Pretty.IndentOk o` is `Blank pyWs o.indent`. -/
def Blank (ws : Char → Bool) (s : Str) : Prop := ∀ c ∈ s, ws c = true

def HeadNonWs (ws : Char → Bool) (s : Str) : Prop := ∀ a, s.head? = some a → ws a = false
def LastNonWs (ws : Char → Bool) (s : Str) : Prop := ∀ a, s.getLast? = some a → ws a = false

@[simp] theorem onlySp_nil (ws) : OnlySp ws [] := by simp [OnlySp]
theorem onlySp_cons (ws a s) : OnlySp ws (a :: s) ↔ (ws a = true → a = ' ') ∧ OnlySp ws s := by
  simp [OnlySp]

@[simp] theorem blank_nil (ws) : Blank ws [] := by simp [Blank]
theorem blank_cons (ws a s) : Blank ws (a :: s) ↔ ws a = true ∧ Blank ws s := by simp [Blank]
theorem blank_append (ws a b) : Blank ws (a ++ b) ↔ Blank ws a ∧ Blank ws b := by
  simp [Blank, or_imp, forall_and]
theorem blank_nil_or_space (ws : Char → Bool) (hsp : ws ' ' = true) {p : Str} (h : p = [] ∨ p = [' ']) :
    Blank ws p := by
  rcases h with rfl | rfl <;> simp [blank_cons, hsp]

@[simp] theorem noDbl_nil : NoDbl [] := by simp [NoDbl]
@[simp] theorem noDbl_single (a) : NoDbl [a] := by simp [NoDbl]
theorem noDbl_cons (a : Char) (l : Str) :
    NoDbl (a :: l) ↔ (a = ' ' → l.head? ≠ some ' ') ∧ NoDbl l := by
  cases l <;> simp [NoDbl]

theorem noDbl_getElem {s : Str} (h : NoDbl s) :
    ∀ i, s[i]? = some ' ' → s[i+1]? ≠ some ' ' := by
  induction s with
  | nil => simp
  | cons a l ih =>
    rw [noDbl_cons] at h
    intro i
    cases i with
    | zero =>
      intro h0
      rw [List.getElem?_cons_succ, ← List.head?_eq_getElem?]
      exact h.1 (by simpa using h0)
    | succ i => simpa using ih h.2 i

theorem noDbl_append_right (a b : Str) (h : NoDbl (a ++ b)) : NoDbl b := by
  induction a with
  | nil => exact h
  | cons x a ih =>
    rw [List.cons_append, noDbl_cons] at h
    exact ih h.2

theorem noDbl_append_left (a b : Str) (h : NoDbl (a ++ b)) : NoDbl a := by
  induction a with
  | nil => simp
  | cons x a ih =>
    rw [List.cons_append, noDbl_cons] at h
    rw [noDbl_cons]
    refine ⟨fun hx => ?_, ih h.2⟩
    have := h.1 hx
    cases a <;> simp_all

@[simp] theorem headNonWs_nil (ws) : HeadNonWs ws [] := by simp [HeadNonWs]
@[simp] theorem headNonWs_cons (ws a s) : HeadNonWs ws (a :: s) ↔ ws a = false := by
  simp [HeadNonWs]
theorem lastNonWs_iff_reverse (ws : Char → Bool) (s : Str) : LastNonWs ws s ↔ HeadNonWs ws s.reverse := by
  simp [LastNonWs, HeadNonWs, List.head?_reverse]

theorem blank_reverse (ws : Char → Bool) (s : Str) : Blank ws s.reverse ↔ Blank ws s := by
  simp [Blank]

/-! ### collapse -/

theorem collapseAux_cons (ws : Char → Bool) (b : Bool) (c : Char) (cs : Str) :
    collapseAux ws b (c :: cs) =
      if ws c then (if b then collapseAux ws true cs else ' ' :: collapseAux ws true cs)
      else c :: collapseAux ws false cs := by
  simp [collapseAux]

theorem collapseAux_onlySp (ws : Char → Bool) (b : Bool) (s : Str) :
    OnlySp ws (collapseAux ws b s) := by
  fun_induction collapseAux ws b s with
  | case1 => simp
  | case2 c cs hc ih => exact ih
  | case3 b c cs hc hb ih => rw [onlySp_cons]; exact ⟨fun _ => rfl, ih⟩
  | case4 b c cs hc ih => rw [onlySp_cons]; exact ⟨fun h => absurd h hc, ih⟩

theorem collapseAux_true_head (ws : Char → Bool) (s : Str) :
    HeadNonWs ws (collapseAux ws true s) := by
  induction s with
  | nil => simp [collapseAux]
  | cons c cs ih =>
    simp only [collapseAux]
    split
    · simpa using ih
    · simp_all

theorem collapseAux_noDbl (ws : Char → Bool) (hsp : ws ' ' = true) (b : Bool) (s : Str) :
    NoDbl (collapseAux ws b s) := by
  fun_induction collapseAux ws b s with
  | case1 => simp
  | case2 c cs hc ih => exact ih
  | case3 b c cs hc hb ih =>
    rw [noDbl_cons]
    refine ⟨fun _ h => ?_, ih⟩
    have := collapseAux_true_head ws cs _ h
    simp_all
  | case4 b c cs hc ih =>
    rw [noDbl_cons]
    exact ⟨fun h => absurd (h ▸ hsp) hc, ih⟩

theorem nonWs_collapseAux (ws : Char → Bool) (hsp : ws ' ' = true) (b : Bool) (s : Str) :
    nonWs ws (collapseAux ws b s) = nonWs ws s := by
  fun_induction collapseAux ws b s <;> simp_all [nonWs]

theorem collapseAux_fixed (ws : Char → Bool) (b : Bool) (c : Str)
    (h1 : OnlySp ws c) (h2 : NoDbl c) (h3 : b = true → HeadNonWs ws c) :
    collapseAux ws b c = c := by
  fun_induction collapseAux ws b c with
  | case1 => rfl
  | case2 a rest ha ih => exact absurd ha (by simpa using h3 rfl)
  | case3 b a rest ha hb ih =>
    rw [onlySp_cons] at h1
    rw [noDbl_cons] at h2
    -- `a` is the space, so `rest` does not begin with one, nor with other whitespace
    rw [ih h1.2 h2.2, h1.1 ha]
    intro _ x hx
    cases hws : ws x with
    | false => rfl
    | true =>
      rw [h1.2 x (List.mem_of_mem_head? (by simp [hx])) hws] at hx
      exact absurd hx (h2.1 (h1.1 ha))
  | case4 b a rest ha ih =>
    rw [onlySp_cons] at h1
    rw [noDbl_cons] at h2
    rw [ih h1.2 h2.2 (by simp)]

theorem collapseAux_append (ws : Char → Bool) (b : Bool) (x y : Str) :
    collapseAux ws b (x ++ y) =
      collapseAux ws b x ++ collapseAux ws ((x.getLast?.map ws).getD b) y := by
  induction x generalizing b with
  | nil => rfl
  | cons c x ih =>
    have e : ∀ b', ((c :: x).getLast?.map ws).getD b' = (x.getLast?.map ws).getD (ws c) := by
      cases x with
      | nil => exact fun _ => rfl
      | cons d t => rw [List.getLast?_cons_cons, List.getLast?_eq_some_getLast (List.cons_ne_nil d t)]; exact fun _ => rfl
    rw [List.cons_append, collapseAux_cons, collapseAux_cons, ih, ih, e]
    cases ws c <;> cases b <;> rfl

/-! ### ltrim -/

theorem ltrim_cons (ws : Char → Bool) (a : Char) (s : Str) :
    ltrim ws (a :: s) = if ws a then ltrim ws s else a :: s := by
  simp [ltrim, List.dropWhile_cons]

@[simp] theorem ltrim_nil (ws : Char → Bool) : ltrim ws [] = [] := rfl

theorem ltrim_headNonWs (ws : Char → Bool) (s : Str) : HeadNonWs ws (ltrim ws s) := by
  induction s with
  | nil => simp
  | cons a s ih => rw [ltrim_cons]; split <;> simp_all

theorem ltrim_of_headNonWs (ws : Char → Bool) (s : Str) (h : HeadNonWs ws s) :
    ltrim ws s = s := by
  cases s with
  | nil => rfl
  | cons a s => rw [ltrim_cons]; simp_all

theorem ltrim_suffix (ws : Char → Bool) (s : Str) : ltrim ws s <:+ s := List.dropWhile_suffix ws

theorem ltrim_onlySp (ws : Char → Bool) (s : Str) (h : OnlySp ws s) : OnlySp ws (ltrim ws s) :=
  fun c hc => h c ((ltrim_suffix ws s).subset hc)

theorem ltrim_noDbl (ws : Char → Bool) (s : Str) (h : NoDbl s) : NoDbl (ltrim ws s) := by
  obtain ⟨t, ht⟩ := ltrim_suffix ws s
  exact noDbl_append_right t _ (ht.symm ▸ h)

theorem nonWs_ltrim (ws : Char → Bool) (s : Str) : nonWs ws (ltrim ws s) = nonWs ws s := by
  induction s with
  | nil => simp
  | cons a s ih =>
    rw [ltrim_cons]
    split
    · rw [ih]; simp_all [nonWs]
    · rfl

theorem ltrim_append_of_all (ws : Char → Bool) (pre x : Str) (h : Blank ws pre) :
    ltrim ws (pre ++ x) = ltrim ws x := by
  induction pre with
  | nil => rfl
  | cons a s ih =>
    rw [blank_cons] at h
    rw [List.cons_append, ltrim_cons, if_pos h.1]
    exact ih h.2

/-! ### rtrim -/

theorem rtrim_eq (ws : Char → Bool) (s : Str) : rtrim ws s = (ltrim ws s.reverse).reverse := rfl

@[simp] theorem rtrim_nil (ws : Char → Bool) : rtrim ws [] = [] := rfl

theorem rtrim_cons (ws : Char → Bool) (a : Char) (s : Str) :
    rtrim ws (a :: s) = if (rtrim ws s).isEmpty && ws a then [] else a :: rtrim ws s := by
  simp only [rtrim, List.reverse_cons, List.dropWhile_append]
  by_cases h : (List.dropWhile ws s.reverse).isEmpty = true
  · by_cases h2 : ws a = true <;> simp_all
  · simp_all

theorem rtrim_prefix (ws : Char → Bool) (s : Str) : rtrim ws s <+: s := by
  have := ltrim_suffix ws s.reverse
  rwa [← List.reverse_prefix, List.reverse_reverse] at this

theorem rtrim_headNonWs (ws : Char → Bool) (s : Str) (h : HeadNonWs ws s) :
    HeadNonWs ws (rtrim ws s) := by
  intro a ha
  obtain ⟨t, ht⟩ := rtrim_prefix ws s
  exact h a (by rw [← ht, List.head?_append, ha]; rfl)

theorem rtrim_onlySp (ws : Char → Bool) (s : Str) (h : OnlySp ws s) : OnlySp ws (rtrim ws s) :=
  fun c hc => h c ((rtrim_prefix ws s).subset hc)

theorem rtrim_noDbl (ws : Char → Bool) (s : Str) (h : NoDbl s) : NoDbl (rtrim ws s) := by
  obtain ⟨t, ht⟩ := rtrim_prefix ws s
  exact noDbl_append_left _ t (ht.symm ▸ h)

theorem nonWs_rtrim (ws : Char → Bool) (s : Str) : nonWs ws (rtrim ws s) = nonWs ws s := by
  have := nonWs_ltrim ws s.reverse
  simp only [nonWs, List.filter_reverse] at this
  rw [rtrim_eq, nonWs, List.filter_reverse, this, List.reverse_reverse]; rfl

theorem rtrim_lastNonWs (ws : Char → Bool) (s : Str) : LastNonWs ws (rtrim ws s) := by
  rw [lastNonWs_iff_reverse, rtrim_eq, List.reverse_reverse]
  exact ltrim_headNonWs ws _

theorem rtrim_of_lastNonWs (ws : Char → Bool) (s : Str) (h : LastNonWs ws s) :
    rtrim ws s = s := by
  rw [rtrim_eq, ltrim_of_headNonWs ws _ ((lastNonWs_iff_reverse ws s).1 h), List.reverse_reverse]

theorem rtrim_append_of_all (ws : Char → Bool) (x post : Str) (h : Blank ws post) :
    rtrim ws (x ++ post) = rtrim ws x := by
  rw [rtrim_eq, List.reverse_append, ltrim_append_of_all ws _ _ ((blank_reverse ws post).2 h), ← rtrim_eq]

/-! ### shape of a collapsed string -/

theorem rtrim_decomp (ws : Char → Bool) (s : Str) : ∃ post, Blank ws post ∧ s = rtrim ws s ++ post :=
  ⟨(s.reverse.takeWhile ws).reverse, (blank_reverse ..).2 (List.all_eq_true.1 List.all_takeWhile),
    by rw [rtrim, ← List.reverse_append, List.takeWhile_append_dropWhile, List.reverse_reverse]⟩

theorem strip_decomp (ws : Char → Bool) (s : Str) :
    ∃ pre post, Blank ws pre ∧ Blank ws post ∧ s = pre ++ (strip ws s ++ post) := by
  have htw := fun x : Str => List.all_eq_true.1 (List.all_takeWhile (p := ws) (l := x))
  refine ⟨s.takeWhile ws, ((ltrim ws s).reverse.takeWhile ws).reverse, htw _, (blank_reverse ..).2 (htw _), ?_⟩
  rw [strip, rtrim, ← List.reverse_append, List.takeWhile_append_dropWhile, List.reverse_reverse]
  exact List.takeWhile_append_dropWhile.symm

theorem blank_collapsed {ws : Char → Bool} : ∀ {p : Str}, OnlySp ws p → NoDbl p → Blank ws p → p = [] ∨ p = [' ']
  | [], _, _, _ => Or.inl rfl
  | [a], h1, _, hb => Or.inr (by rw [h1 a (by simp) (hb a (by simp))])
  | a :: b :: _, h1, h2, hb =>
    absurd ⟨h1 a (by simp) (hb a (by simp)), h1 b (by simp) (hb b (by simp))⟩ h2.1

/-- a collapsed string is empty, a single space, or a non-empty core that starts and ends
    with non-whitespace, optionally preceded and followed by one space -/
def Shape (ws : Char → Bool) (c : Str) : Prop :=
  c = [] ∨ c = [' '] ∨ ∃ pre core post, c = pre ++ (core ++ post) ∧ (pre = [] ∨ pre = [' ']) ∧
    (post = [] ∨ post = [' ']) ∧ core ≠ [] ∧ HeadNonWs ws core ∧ LastNonWs ws core

theorem shape_of_collapsed (ws : Char → Bool) (_ : ws ' ' = true) (c : Str)
    (h1 : OnlySp ws c) (h2 : NoDbl c) : Shape ws c := by
  obtain ⟨pre, post, hpre, hpost, e⟩ := strip_decomp ws c
  have hh : HeadNonWs ws (strip ws c) := rtrim_headNonWs ws _ (ltrim_headNonWs ws c)
  have hl : LastNonWs ws (strip ws c) := rtrim_lastNonWs ws _
  generalize strip ws c = core at e hh hl
  subst e
  by_cases hc : core = []
  · subst hc
    exact (blank_collapsed h1 h2 ((blank_append ..).2 ⟨hpre, hpost⟩)).imp id Or.inl
  · exact Or.inr (Or.inr ⟨pre, core, post, rfl,
      blank_collapsed (fun x hx => h1 x (by simp [hx])) (noDbl_append_left _ _ h2) hpre,
      blank_collapsed (fun x hx => h1 x (by simp [hx])) (noDbl_append_right _ _ (noDbl_append_right _ _ h2)) hpost,
      hc, hh, hl⟩)

theorem headNonWs_append (ws : Char → Bool) (x y : Str) (hne : x ≠ []) (h : HeadNonWs ws x) :
    HeadNonWs ws (x ++ y) := by
  cases x with
  | nil => simp at hne
  | cons a t => simpa using h

theorem lastNonWs_append (ws : Char → Bool) (x y : Str) (hne : y ≠ []) (h : LastNonWs ws y) :
    LastNonWs ws (x ++ y) := by
  rw [lastNonWs_iff_reverse, List.reverse_append]
  exact headNonWs_append ws _ _ (by simpa using hne) ((lastNonWs_iff_reverse ws y).1 h)

theorem trim_sandwich (ws : Char → Bool) {pre core post : Str} (hpre : Blank ws pre) (hpost : Blank ws post)
    (hne : core ≠ []) (hh : HeadNonWs ws core) (hl : LastNonWs ws core) (f l : Bool) :
    (if l = true then rtrim ws (if f = true then ltrim ws (pre ++ (core ++ post)) else pre ++ (core ++ post))
      else (if f = true then ltrim ws (pre ++ (core ++ post)) else pre ++ (core ++ post))) =
      (if f = true then [] else pre) ++ (core ++ (if l = true then [] else post)) := by
  have hlt : ltrim ws (pre ++ (core ++ post)) = core ++ post := by
    rw [ltrim_append_of_all ws _ _ hpre, ltrim_of_headNonWs ws _ (headNonWs_append ws _ _ hne hh)]
  have hrt : ∀ x, rtrim ws (x ++ (core ++ post)) = x ++ core := fun x => by
    rw [← List.append_assoc, rtrim_append_of_all ws _ _ hpost, rtrim_of_lastNonWs ws _ (lastNonWs_append ws _ _ hne hl)]
  have hrt0 : rtrim ws (core ++ post) = core := hrt []
  cases f <;> cases l <;> simp [hlt, hrt, hrt0]

/-! ### content reduction -/

theorem content_impl_eq_spec (ws : Char → Bool) (hsp : ws ' ' = true)
    (s : Str) (isFirst isLast : Bool) :
    reduceContentImpl ws s isFirst isLast = reduceContentSpec ws s isFirst isLast := by
  have h : Shape ws (collapse ws s) :=
    shape_of_collapsed ws hsp _ (collapseAux_onlySp ws false s) (collapseAux_noDbl ws hsp false s)
  unfold reduceContentImpl reduceContentSpec
  generalize collapse ws s = c at h
  rcases h with rfl | rfl | ⟨pre, core, post, rfl, hpre, hpost, hne, hh, hl⟩
  · cases isFirst <;> cases isLast <;> simp [strip]
  · cases isFirst <;> cases isLast <;> simp [strip, ltrim_cons, rtrim_cons, hsp]
  · -- both sides are `(if isFirst then [] else pre) ++ core ++ (if isLast then [] else post)`
    have htrim := trim_sandwich ws (blank_nil_or_space ws hsp hpre) (blank_nil_or_space ws hsp hpost) hne hh hl
    have hS : strip ws (pre ++ (core ++ post)) = core := by simpa [strip] using htrim true true
    have hsp' : ∀ x, ws x = false → x ≠ ' ' := fun x hx e => by rw [e, hsp] at hx; cases hx
    have hlast : ((pre ++ (core ++ post)).getLast? == some ' ') = !post.isEmpty := by
      rcases hpost with rfl | rfl
      · cases hg : (pre ++ (core ++ [])).getLast? with
        | none => rfl
        | some x => simpa using hsp' x (lastNonWs_append ws pre _ (by simpa using hne) (by simpa using hl) x hg)
      · simp [← List.append_assoc]
    dsimp only
    rw [htrim, hS, hlast]
    obtain ⟨a, t, rfl⟩ := List.exists_cons_of_ne_nil hne
    have ha := hsp' a (by simpa using hh)
    rcases hpre with rfl | rfl <;> rcases hpost with rfl | rfl <;> cases isFirst <;> cases isLast <;> simp [ha]

/-- the string before the final "only child" rule -/
def specCore (ws : Char → Bool) (s : Str) (isFirst isLast : Bool) : Str :=
  let c := collapse ws s
  let c := if isFirst then ltrim ws c else c
  if isLast then rtrim ws c else c

theorem spec_eq (ws : Char → Bool) (s : Str) (f l : Bool) :
    reduceContentSpec ws s f l =
      if (specCore ws s f l).isEmpty && f && l then [' '] else specCore ws s f l := rfl

theorem specCore_of_collapse (ws : Char → Bool) {Q : Str → Prop} (hl : ∀ x, Q x → Q (ltrim ws x))
    (hr : ∀ x, Q x → Q (rtrim ws x)) (s : Str) (f l : Bool) (h : Q (collapse ws s)) : Q (specCore ws s f l) := by
  cases f <;> cases l <;> simp only [specCore, if_true, if_false, Bool.false_eq_true]
  · exact h
  · exact hr _ h
  · exact hl _ h
  · exact hr _ (hl _ h)

theorem specCore_onlySp (ws : Char → Bool) (s : Str) (f l : Bool) :
    OnlySp ws (specCore ws s f l) :=
  specCore_of_collapse ws (ltrim_onlySp ws) (rtrim_onlySp ws) s f l (collapseAux_onlySp ws false s)

theorem specCore_noDbl (ws : Char → Bool) (hsp : ws ' ' = true) (s : Str) (f l : Bool) :
    NoDbl (specCore ws s f l) :=
  specCore_of_collapse ws (ltrim_noDbl ws) (rtrim_noDbl ws) s f l (collapseAux_noDbl ws hsp false s)

theorem nonWs_specCore (ws : Char → Bool) (hsp : ws ' ' = true) (s : Str) (f l : Bool) :
    nonWs ws (specCore ws s f l) = nonWs ws s :=
  specCore_of_collapse ws (Q := fun x => nonWs ws x = nonWs ws s) (fun x h => (nonWs_ltrim ws x).trans h)
    (fun x h => (nonWs_rtrim ws x).trans h) s f l (nonWs_collapseAux ws hsp false s)

theorem spec_onlySp (ws : Char → Bool) (s : Str) (f l : Bool) :
    OnlySp ws (reduceContentSpec ws s f l) := by
  rw [spec_eq]; split
  · simp [OnlySp]
  · exact specCore_onlySp ws s f l

theorem spec_noDbl (ws : Char → Bool) (hsp : ws ' ' = true) (s : Str) (f l : Bool) :
    NoDbl (reduceContentSpec ws s f l) := by
  rw [spec_eq]; split
  · simp
  · exact specCore_noDbl ws hsp s f l

theorem nonWs_spec (ws : Char → Bool) (hsp : ws ' ' = true) (s : Str) (f l : Bool) :
    nonWs ws (reduceContentSpec ws s f l) = nonWs ws s := by
  rw [spec_eq, ← nonWs_specCore ws hsp s f l]; split
  · rename_i h
    simp at h
    simp [h.1.1, nonWs, hsp]
  · rfl

theorem specCore_head (ws : Char → Bool) (s : Str) (l : Bool) :
    HeadNonWs ws (specCore ws s true l) := by
  cases l <;> simp only [specCore, if_true, if_false, Bool.false_eq_true]
  · exact ltrim_headNonWs _ _
  · exact rtrim_headNonWs _ _ (ltrim_headNonWs _ _)

theorem specCore_last (ws : Char → Bool) (s : Str) (f : Bool) :
    LastNonWs ws (specCore ws s f true) := by
  simp only [specCore, if_true]
  exact rtrim_lastNonWs _ _

theorem specCore_fixed (ws : Char → Bool) (hsp : ws ' ' = true) (s : Str) (f l : Bool) :
    specCore ws (specCore ws s f l) f l = specCore ws s f l := by
  have hc : collapse ws (specCore ws s f l) = specCore ws s f l :=
    collapseAux_fixed ws false _ (specCore_onlySp ws s f l) (specCore_noDbl ws hsp s f l) (by simp)
  have hl : f = true → ltrim ws (specCore ws s f l) = specCore ws s f l := by
    intro h; subst h; exact ltrim_of_headNonWs _ _ (specCore_head ws s l)
  have hr : l = true → rtrim ws (specCore ws s f l) = specCore ws s f l := by
    intro h; subst h; exact rtrim_of_lastNonWs _ _ (specCore_last ws s f)
  generalize specCore ws s f l = x at *
  cases f <;> cases l <;> simp_all [specCore]

theorem spec_idem (ws : Char → Bool) (hsp : ws ' ' = true) (s : Str) (f l : Bool) :
    reduceContentSpec ws (reduceContentSpec ws s f l) f l = reduceContentSpec ws s f l := by
  rw [spec_eq ws s]
  split
  · rename_i h
    simp at h
    obtain ⟨⟨_, rfl⟩, rfl⟩ := h
    simp [reduceContentSpec, collapse, collapseAux, hsp, ltrim_cons]
  · rename_i h
    rw [spec_eq, specCore_fixed ws hsp]
    simp [h]

/-! ## tree level -/

theorem node_induct {P : Node → Prop} {Q : List Node → Prop}
    (tag : ∀ ns name attrs kids, Q kids → P (.tag ns name attrs kids))
    (text : ∀ s, P (.text s)) (comment : ∀ s, P (.comment s)) (pi : ∀ t s, P (.pi t s))
    (nil : Q []) (cons : ∀ k ks, P k → Q ks → Q (k :: ks)) :
    (∀ t, P t) ∧ (∀ l, Q l) := by
  have hP : ∀ t, P t := fun t =>
    Node.rec (motive_1 := P) (motive_2 := Q) tag text comment pi nil cons t
  refine ⟨hP, fun l => ?_⟩
  induction l with
  | nil => exact nil
  | cons k ks ih => exact cons k ks (hP k) ih

theorem _root_.Delb.Node.ne_text {k : Node} (hk : k.isText = false) (s : Str) : k ≠ .text s :=
  fun e => by rw [e] at hk; cases hk

theorem _root_.Delb.Node.text_or_not (k : Node) : (∃ s, k = .text s) ∨ k.isText = false := by
  cases k <;> simp [Node.isText]

theorem kids_induct {P : List Node → Prop} (nil : P []) (text : ∀ s rest, P rest → P (.text s :: rest))
    (node : ∀ k rest, k.isText = false → P rest → P (k :: rest)) : ∀ l, P l
  | [] => nil
  | k :: rest => by
    rcases k.text_or_not with ⟨s, rfl⟩ | hk
    · exact text s rest (kids_induct nil text node rest)
    · exact node k rest hk (kids_induct nil text node rest)

theorem directive_of_no_space {attrs : List Attr} (m : Mode)
    (h : attrs.any (fun a => a.ns == Gen.xmlNamespace && a.name == "space") = false) :
    directive attrs m = m := by
  have : attrs.find? (fun a => a.ns == Gen.xmlNamespace && a.name == "space") = none := by
    rw [List.find?_eq_none]
    intro a ha
    simpa using List.any_eq_false.1 h a ha
  simp [directive, this]

variable (rc : Str → Bool → Bool → Str)

/-- what `reduceNode` does with the already recursively reduced child list -/
def finishKids (m' : Mode) (kids2 : List Node) : List Node :=
  match m' with
  | .preserve => kids2
  | .default => reduceTexts rc kids2.length 0 kids2

@[simp] theorem finishKids_preserve (l) : finishKids rc .preserve l = l := rfl
@[simp] theorem finishKids_default (l) :
    finishKids rc .default l = reduceTexts rc l.length 0 l := rfl

theorem reduceNode_tag (m ns name attrs kids) :
    reduceNode rc m (.tag ns name attrs kids) =
      .tag ns name attrs (finishKids rc (directive attrs m)
        (reduceList rc (directive attrs m) kids)) := by
  simp only [reduceNode]
  cases directive attrs m <;> rfl
@[simp] theorem reduceNode_text (m s) : reduceNode rc m (.text s) = .text s := by
  rfl
@[simp] theorem reduceNode_comment (m s) : reduceNode rc m (.comment s) = .comment s := by
  rfl
@[simp] theorem reduceNode_pi (m t s) : reduceNode rc m (.pi t s) = .pi t s := by
  rfl

@[simp] theorem reduceList_nil (m) : reduceList rc m [] = [] := by rw [reduceList]
theorem reduceList_text (m s ks) : reduceList rc m (.text s :: ks) =
    if s = [] then reduceList rc m ks else .text s :: reduceList rc m ks := by
  cases s <;> simp [reduceList]
theorem reduceList_nontext (m k ks) (h : k.isText = false) :
    reduceList rc m (k :: ks) = reduceNode rc m k :: reduceList rc m ks :=
  reduceList.eq_3 rc m k ks (Node.ne_text h [])

@[simp] theorem reduceTexts_nil (n i) : reduceTexts rc n i [] = [] := by rw [reduceTexts]
theorem reduceTexts_text (n i s rest) : reduceTexts rc n i (.text s :: rest) =
    if (rc s (i == 0) (i + 1 == n)).isEmpty then reduceTexts rc n (i+1) rest
    else .text (rc s (i == 0) (i + 1 == n)) :: reduceTexts rc n (i+1) rest := by
  rw [reduceTexts]
theorem reduceTexts_nontext (n i k rest) (h : k.isText = false) :
    reduceTexts rc n i (k :: rest) = k :: reduceTexts rc n (i+1) rest :=
  reduceTexts.eq_3 rc n i k rest (Node.ne_text h)

@[simp] theorem isText_tag (ns name attrs kids) : (Node.tag ns name attrs kids).isText = false := by
  rfl
@[simp] theorem isText_text (s) : (Node.text s).isText = true := by
  rw [Node.isText]
@[simp] theorem isText_comment (s) : (Node.comment s).isText = false := by
  rfl
@[simp] theorem isText_pi (t s) : (Node.pi t s).isText = false := by
  rfl

theorem isText_reduceNode (m k) : (reduceNode rc m k).isText = k.isText := by
  cases k <;> simp [reduceNode_tag]

/-! ### skeleton -/

@[simp] theorem skeleton_tag (ns name attrs kids) :
    skeleton (.tag ns name attrs kids) = .tag ns name attrs (skeletonList kids) := by
  rw [skeleton]
@[simp] theorem skeletonList_nil : skeletonList [] = [] := by rw [skeletonList]
@[simp] theorem skeletonList_text (s ks) : skeletonList (.text s :: ks) = skeletonList ks := by
  rw [skeletonList]
theorem skeletonList_nontext (k ks) (h : k.isText = false) :
    skeletonList (k :: ks) = skeleton k :: skeletonList ks :=
  skeletonList.eq_3 k ks (Node.ne_text h)

theorem skeletonList_reduceTexts (n i l) :
    skeletonList (reduceTexts rc n i l) = skeletonList l := by
  induction l generalizing i with
  | nil => simp
  | cons k ks ih =>
    cases k with
    | text s => rw [reduceTexts_text]; split <;> simp [ih]
    | _ => simp [reduceTexts_nontext, skeletonList_nontext, ih]

theorem skeleton_reduce_all :
    (∀ t, ∀ m, skeleton (reduceNode rc m t) = skeleton t) ∧
    (∀ l, ∀ m, skeletonList (reduceList rc m l) = skeletonList l) := by
  apply node_induct
  · intro ns name attrs kids ih m
    rw [reduceNode_tag]
    cases directive attrs m <;> simp [skeletonList_reduceTexts, ih]
  · intros; simp
  · intros; simp
  · intros; simp
  · intros; simp
  · intro k ks ihk ihks m
    rcases k.text_or_not with ⟨s, rfl⟩ | hk
    · rw [reduceList_text]; split <;> simp [ihks]
    · rw [reduceList_nontext _ _ _ _ hk, skeletonList_nontext _ _ hk,
        skeletonList_nontext _ _ (by rw [isText_reduceNode, hk]), ihk, ihks]

/-! ### fullText / nonWs -/

@[simp] theorem fullText_tag (ns name attrs kids) :
    fullText (.tag ns name attrs kids) = fullTextList kids := by rw [fullText]
@[simp] theorem fullText_text (s) : fullText (.text s) = s := by rw [fullText]
@[simp] theorem fullTextList_nil : fullTextList [] = [] := by rw [fullTextList]
@[simp] theorem fullTextList_cons (k ks) :
    fullTextList (k :: ks) = fullText k ++ fullTextList ks := by rw [fullTextList]

theorem nonWs_append (ws : Char → Bool) (a b : Str) :
    nonWs ws (a ++ b) = nonWs ws a ++ nonWs ws b := by simp [nonWs]

theorem nonWs_reduceTexts (ws : Char → Bool)
    (hrc : ∀ s f l, nonWs ws (rc s f l) = nonWs ws s) (n i l) :
    nonWs ws (fullTextList (reduceTexts rc n i l)) = nonWs ws (fullTextList l) := by
  induction l generalizing i with
  | nil => simp
  | cons k ks ih =>
    cases k with
    | text s =>
      have e : ∀ (r : Str) X, fullTextList (if r.isEmpty then X else .text r :: X) = r ++ fullTextList X := by
        intro r X; cases r <;> simp
      rw [reduceTexts_text, e]
      simp [nonWs_append, ih, hrc]
    | _ => simp [reduceTexts_nontext, nonWs_append, ih]

theorem nonWs_reduce_all (ws : Char → Bool)
    (hrc : ∀ s f l, nonWs ws (rc s f l) = nonWs ws s) :
    (∀ t, ∀ m, nonWs ws (fullText (reduceNode rc m t)) = nonWs ws (fullText t)) ∧
    (∀ l, ∀ m, nonWs ws (fullTextList (reduceList rc m l)) = nonWs ws (fullTextList l)) := by
  apply node_induct
  · intro ns name attrs kids ih m
    rw [reduceNode_tag]
    cases directive attrs m <;> simp [nonWs_reduceTexts rc ws hrc, ih]
  · intros; simp
  · intros; simp
  · intros; simp
  · intros; simp
  · intro k ks ihk ihks m
    rcases k.text_or_not with ⟨s, rfl⟩ | hk
    · rw [reduceList_text]; split
      · subst_vars; simpa using ihks m
      · simp [ihks, nonWs_append]
    · rw [reduceList_nontext _ _ _ _ hk]
      simp only [fullTextList_cons, nonWs_append, ihk m, ihks m]

/-! ### merged -/

def headIsText : List Node → Bool
  | k :: _ => k.isText
  | [] => false

@[simp] theorem headIsText_nil : headIsText [] = false := rfl
@[simp] theorem headIsText_cons (k ks) : headIsText (k :: ks) = k.isText := rfl

@[simp] theorem mergedKids_nil : mergedKids [] = true := by rw [mergedKids]
theorem mergedKids_text (s l) :
    mergedKids (.text s :: l) = (!s.isEmpty && !headIsText l && mergedKids l) := by
  cases l with
  | nil => simp [mergedKids]
  | cons k ks => cases k <;> simp [mergedKids]
theorem mergedKids_nontext (k l) (h : k.isText = false) :
    mergedKids (k :: l) = mergedKids l := by
  cases k <;> simp_all [mergedKids]

theorem mergedKids_induct {P : List Node → Prop} (nil : P [])
    (text : ∀ s rest, s ≠ [] → headIsText rest = false → mergedKids rest = true → P rest → P (.text s :: rest))
    (node : ∀ k rest, k.isText = false → mergedKids rest = true → P rest → P (k :: rest)) :
    ∀ l, mergedKids l = true → P l := by
  intro l
  induction l using kids_induct with
  | nil => exact fun _ => nil
  | text s rest ih =>
    intro h
    obtain ⟨hs, hh, hm⟩ : s ≠ [] ∧ headIsText rest = false ∧ mergedKids rest = true := by
      simpa [mergedKids_text, and_assoc] using h
    exact text s rest hs hh hm (ih hm)
  | node k rest hk ih =>
    intro h
    rw [mergedKids_nontext _ _ hk] at h
    exact node k rest hk h (ih h)

@[simp] theorem merged_tag (ns name attrs kids) :
    merged (.tag ns name attrs kids) = (mergedKids kids && mergedAll kids) := by rw [merged]
@[simp] theorem merged_text (s) : merged (.text s) = true := by rfl
@[simp] theorem merged_comment (s) : merged (.comment s) = true := by rfl
@[simp] theorem merged_pi (t s) : merged (.pi t s) = true := by rfl
@[simp] theorem mergedAll_nil : mergedAll [] = true := by rw [mergedAll]
@[simp] theorem mergedAll_cons (k ks) : mergedAll (k :: ks) = (merged k && mergedAll ks) := by
  rw [mergedAll]

theorem headIsText_reduceTexts (n i l) (h : headIsText l = false) :
    headIsText (reduceTexts rc n i l) = false := by
  cases l with
  | nil => simp
  | cons k ks =>
    simp at h
    simp [reduceTexts_nontext, h]

theorem mergedKids_reduceTexts (n i l) (h : mergedKids l = true) :
    mergedKids (reduceTexts rc n i l) = true := by
  refine mergedKids_induct (P := fun l => ∀ i, mergedKids (reduceTexts rc n i l) = true) (by simp)
    (fun s rest _ hh _ ih i => ?_) (fun k rest hk _ ih i => ?_) l h i
  · rw [reduceTexts_text]
    split
    · exact ih _
    · rename_i hr
      rw [mergedKids_text]
      simp [hr, headIsText_reduceTexts rc _ _ _ hh, ih]
  · rw [reduceTexts_nontext _ _ _ _ _ hk, mergedKids_nontext _ _ hk]
    exact ih _

theorem mergedAll_reduceTexts (n i l) (h : mergedAll l = true) :
    mergedAll (reduceTexts rc n i l) = true := by
  induction l generalizing i with
  | nil => simp
  | cons k ks ih =>
    simp at h
    cases k with
    | text s => rw [reduceTexts_text]; split <;> simp [ih _ h.2]
    | _ => simp_all [reduceTexts_nontext]

theorem merged_reduce_all :
    (∀ t, ∀ m, merged t = true → merged (reduceNode rc m t) = true) ∧
    (∀ l, ∀ m, mergedAll l = true → mergedAll (reduceList rc m l) = true ∧
      (mergedKids l = true → mergedKids (reduceList rc m l) = true ∧
        headIsText (reduceList rc m l) = headIsText l)) := by
  apply node_induct
  · intro ns name attrs kids ih m h
    simp at h
    obtain ⟨h1, h2⟩ := ih (directive attrs m) h.2
    obtain ⟨h2, _⟩ := h2 h.1
    rw [reduceNode_tag]
    cases directive attrs m <;>
      simp_all [mergedKids_reduceTexts, mergedAll_reduceTexts]
  · intros; simp
  · intros; simp
  · intros; simp
  · intros; simp
  · intro k ks ihk ihks m h
    simp at h
    obtain ⟨h1, h2⟩ := ihks m h.2
    rcases k.text_or_not with ⟨s, rfl⟩ | hk
    · rw [reduceList_text]
      split
      · subst_vars
        exact ⟨h1, by simp [mergedKids_text]⟩
      · refine ⟨by simp [h1], ?_⟩
        rw [mergedKids_text, mergedKids_text]
        intro hm
        simp at hm
        simp_all
    · have hk' : (reduceNode rc m k).isText = false := by rw [isText_reduceNode, hk]
      rw [reduceList_nontext _ _ _ _ hk]
      refine ⟨by simp only [mergedAll_cons, ihk m h.1, h1, Bool.and_self], ?_⟩
      rw [mergedKids_nontext _ _ hk, mergedKids_nontext _ _ hk']
      intro hm
      exact ⟨(h2 hm).1, by rw [headIsText_cons, headIsText_cons, hk, hk']⟩

/-! ### idempotence -/

/-- `reduceTexts` with the first/last flags computed structurally instead of by index -/
def reduceTextsF (first : Bool) : List Node → List Node
  | [] => []
  | .text s :: rest =>
    let r := rc s first rest.isEmpty
    if r.isEmpty then reduceTextsF false rest else .text r :: reduceTextsF false rest
  | k :: rest => k :: reduceTextsF false rest

@[simp] theorem reduceTextsF_nil (f) : reduceTextsF rc f [] = [] := by rw [reduceTextsF]
theorem reduceTextsF_text (f s rest) : reduceTextsF rc f (.text s :: rest) =
    if (rc s f rest.isEmpty).isEmpty then reduceTextsF rc false rest
    else .text (rc s f rest.isEmpty) :: reduceTextsF rc false rest := by
  rw [reduceTextsF]
theorem reduceTextsF_nontext (f k rest) (h : k.isText = false) :
    reduceTextsF rc f (k :: rest) = k :: reduceTextsF rc false rest :=
  reduceTextsF.eq_3 rc f k rest (Node.ne_text h)

theorem reduceTexts_eq_F (n i l) (h : n = i + l.length) :
    reduceTexts rc n i l = reduceTextsF rc (i == 0) l := by
  induction l generalizing i with
  | nil => simp
  | cons k ks ih =>
    have h' : n = (i + 1) + ks.length := by simp at h; omega
    have hi : ((i + 1) == 0) = false := by simp
    have hl : (i + 1 == n) = ks.isEmpty := by
      cases ks <;> simp at h' ⊢ <;> omega
    rcases k.text_or_not with ⟨s, rfl⟩ | hk
    · rw [reduceTexts_text, reduceTextsF_text, ih _ h', hi, hl]
    · rw [reduceTexts_nontext _ _ _ _ _ hk, reduceTextsF_nontext _ _ _ _ hk, ih _ h', hi]

theorem reduceTextsF_flag (f l) (h : headIsText l = false) :
    reduceTextsF rc f l = reduceTextsF rc false l := by
  cases l with
  | nil => simp
  | cons k ks => simp at h; simp [reduceTextsF_nontext, h]

theorem headIsText_reduceTextsF (f l) (h : headIsText l = false) :
    headIsText (reduceTextsF rc f l) = false := by
  cases l with
  | nil => simp
  | cons k ks => simp at h; simp [reduceTextsF_nontext, h]

theorem isEmpty_reduceTextsF (f l) (h : headIsText l = false) :
    (reduceTextsF rc f l).isEmpty = l.isEmpty := by
  cases l with
  | nil => simp
  | cons k ks => simp at h; simp [reduceTextsF_nontext, h]

theorem reduceTextsF_idem (hrc : ∀ s f l, rc (rc s f l) f l = rc s f l) (f l)
    (h : mergedKids l = true) :
    reduceTextsF rc f (reduceTextsF rc f l) = reduceTextsF rc f l := by
  refine mergedKids_induct (P := fun l => ∀ f, reduceTextsF rc f (reduceTextsF rc f l) = reduceTextsF rc f l) (by simp)
    (fun s rest _ hh _ ih f => ?_) (fun k rest hk _ ih f => ?_) l h f
  · rw [reduceTextsF_text]
    split
    · rw [reduceTextsF_flag rc f _ (headIsText_reduceTextsF rc _ _ hh)]
      exact ih false
    · rename_i hr
      rw [reduceTextsF_text, isEmpty_reduceTextsF rc _ _ hh, hrc, if_neg hr, ih false]
  · rw [reduceTextsF_nontext _ _ _ _ hk, reduceTextsF_nontext _ _ _ _ hk, ih false]

theorem mem_reduceTexts (n i l x) (h : x ∈ reduceTexts rc n i l) :
    (∃ s, x = .text s ∧ s ≠ []) ∨ (x.isText = false ∧ x ∈ l) := by
  induction l using kids_induct generalizing i with
  | nil => simp at h
  | text s rest ih =>
    rw [reduceTexts_text] at h
    split at h
    · exact (ih _ h).imp_right (And.imp_right (List.mem_cons_of_mem _))
    · rename_i hr
      rcases List.mem_cons.1 h with rfl | h
      · exact Or.inl ⟨_, rfl, by simpa using hr⟩
      · exact (ih _ h).imp_right (And.imp_right (List.mem_cons_of_mem _))
  | node k rest hk ih =>
    rw [reduceTexts_nontext _ _ _ _ _ hk] at h
    rcases List.mem_cons.1 h with rfl | h
    · exact Or.inr ⟨hk, List.mem_cons_self⟩
    · exact (ih _ h).imp_right (And.imp_right (List.mem_cons_of_mem _))

theorem reduceList_fixed (m l) (h : ∀ x ∈ l, reduceNode rc m x = x ∧ x ≠ .text []) :
    reduceList rc m l = l := by
  induction l with
  | nil => simp
  | cons k ks ih =>
    have hk := h k (by simp)
    have ih := ih (fun x hx => h x (by simp [hx]))
    cases k with
    | text s =>
      rw [reduceList_text, ih]
      have : s ≠ [] := by intro hs; subst hs; simp at hk
      simp [this]
    | _ =>
      rw [reduceList_nontext _ _ _ _ (by simp), ih, hk.1]

theorem idem_reduce_all (hrc : ∀ s f l, rc (rc s f l) f l = rc s f l) :
    (∀ t, ∀ m, merged t = true → reduceNode rc m (reduceNode rc m t) = reduceNode rc m t) ∧
    (∀ l, ∀ m, mergedAll l = true →
      ∀ x ∈ reduceList rc m l, reduceNode rc m x = x ∧ x ≠ .text []) := by
  apply node_induct
  · intro ns name attrs kids ih m h
    simp at h
    have hk := ((merged_reduce_all rc).2 kids (directive attrs m) h.2).2 h.1
    have ih := ih (directive attrs m) h.2
    rw [reduceNode_tag, reduceNode_tag]
    generalize directive attrs m = m' at *
    generalize reduceList rc m' kids = kids2 at *
    congr 1
    cases m' with
    | preserve => simp [reduceList_fixed rc _ _ ih]
    | default =>
      simp only [finishKids_default]
      have : reduceList rc .default (reduceTexts rc kids2.length 0 kids2) =
          reduceTexts rc kids2.length 0 kids2 := by
        apply reduceList_fixed
        intro x hx
        rcases mem_reduceTexts rc _ _ _ _ hx with ⟨s, rfl, hs⟩ | ⟨_, hx⟩
        · simp [hs]
        · exact ih x hx
      rw [this, reduceTexts_eq_F rc _ 0 _ (by simp), reduceTexts_eq_F rc _ 0 kids2 (by simp)]
      exact reduceTextsF_idem rc hrc _ _ hk.1
  · intros; simp
  · intros; simp
  · intros; simp
  · intro m _ x hx; simp at hx
  · intro k ks ihk ihks m h x hx
    simp at h
    rcases k.text_or_not with ⟨s, rfl⟩ | hk
    · rw [reduceList_text] at hx
      split at hx
      · exact ihks m h.2 x hx
      · simp at hx
        rcases hx with rfl | hx
        · simp_all
        · exact ihks m h.2 x hx
    · rw [reduceList_nontext _ _ _ _ hk] at hx
      rcases List.mem_cons.1 hx with rfl | hx
      · exact ⟨ihk m h.1, Node.ne_text (by rw [isText_reduceNode, hk]) []⟩
      · exact ihks m h.2 x hx

/-! ### merge_text_nodes -/

@[simp] theorem mergeKids_nil : mergeKids [] = [] := by rw [mergeKids]
theorem mergeKids_nontext (k rest) (h : k.isText = false) :
    mergeKids (k :: rest) = k :: mergeKids rest :=
  mergeKids.eq_3 k rest (Node.ne_text h)

theorem mergedKids_mergeKids (l : List Node) : mergedKids (mergeKids l) = true := by
  induction l with
  | nil => simp
  | cons k ks ih =>
    cases k with
    | text s =>
      rw [mergeKids]
      generalize mergeKids ks = r at ih
      split
      · simp_all [mergedKids_text]
      · rename_i hnt
        split
        · exact ih
        · rename_i hs
          rw [mergedKids_text]
          simp [hs, ih]
          cases r with
          | nil => rfl
          | cons x xs =>
            cases x with
            | text t => exact absurd rfl (hnt t xs)
            | _ => simp
    | _ => simp [mergeKids_nontext, mergedKids_nontext, ih]

theorem mergedAll_mergeKids (l : List Node) (h : mergedAll l = true) :
    mergedAll (mergeKids l) = true := by
  induction l with
  | nil => simp
  | cons k ks ih =>
    simp at h
    have ih := ih h.2
    cases k with
    | text s =>
      rw [mergeKids]
      generalize mergeKids ks = r at ih
      split
      · simp_all
      · split
        · exact ih
        · simp [ih]
    | _ => simp_all [mergeKids_nontext]

theorem merged_merge_all :
    (∀ t, merged (mergeNode t) = true) ∧ (∀ l, mergedAll (mergeList l) = true) := by
  apply node_induct
  · intro ns name attrs kids ih
    simp [mergeNode, mergedKids_mergeKids, mergedAll_mergeKids _ ih]
  · intros; simp [mergeNode]
  · intros; simp [mergeNode]
  · intros; simp [mergeNode]
  · simp [mergeList]
  · intro k ks ihk ihks
    simp [mergeList, ihk, ihks]

end Delb.WS
