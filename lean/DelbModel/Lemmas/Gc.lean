import DelbModel.Model.Gc
/-! for Props/C04.lean

The threshold values are hypotheses here; `Props/C04.lean` discharges them with `c04_threshold_values`. -/
namespace Delb.Gc

theorem chainReferenced_eq (ha : Gen.gcAppendedBase = 3) (l : List TextObj) :
    chainReferenced l = l.any (·.userRefs > 0) := by
  induction l with
  | nil => rfl
  | cons t rest ih =>
    simp only [chainReferenced, List.any_cons, ih, appendedRefcount, ha]
    congr 1
    cases rest <;> simp <;> omega

theorem headReferenced_eq (hh : Gen.gcHeadBase = 3) (s : Slot) :
    headReferenced s = decide (s.headRefs > 0) := by
  simp only [headReferenced, headRefcount, hh]
  cases s.appended <;> simp <;> omega

theorem wrapperReferenced_eq (hw : Gen.gcWrapperBase = 4) (hd : Gen.gcDocumentIdle = 4) (w : Wrapper) :
    wrapperReferenced w =
      (decide (w.userRefs > 0) || (match w.docRefs with | some d => decide (d > 0) | none => false)) := by
  simp only [wrapperReferenced, wrapperRefcount, documentRefcount, hw, hd]
  cases w.docRefs with
  | none => cases w.isTag <;> simp <;> omega
  | some d => cases d <;> cases w.isTag <;> simp <;> omega

theorem keeps_eq_anyReferenced
    (hw : Gen.gcWrapperBase = 4) (hd : Gen.gcDocumentIdle = 4)
    (ha : Gen.gcAppendedBase = 3) (hh : Gen.gcHeadBase = 3) (w : Wrapper) :
    keeps w = anyReferenced w := by
  simp only [keeps, anyReferenced, wrapperReferenced_eq hw hd, headReferenced_eq hh,
    chainReferenced_eq ha]
  have hb : ∀ a c e d : Bool, (a || c || e || d) = (a || c || d || e) := by decide
  exact hb _ _ _ _

theorem mem_gcStep_cache {s : State} {w : Wrapper} :
    w ∈ (gcStep s).1.cache ↔ w ∈ s.cache ∧ (s.locks > 0 ∨ keeps w = true) := by
  unfold gcStep
  split
  · rename_i h
    simp only [h, true_or, and_true]
  · rename_i h
    simp only [List.mem_filter, h, false_or]

theorem mem_gcStep_evicted {s : State} {e : Element} :
    e ∈ (gcStep s).2 ↔ ¬ s.locks > 0 ∧ ∃ w ∈ s.cache, keeps w = false ∧ evict w = e := by
  unfold gcStep
  split
  · rename_i h
    simp only [List.not_mem_nil, h, not_true_eq_false, false_and]
  · rename_i h
    simp only [List.mem_map, List.mem_filter, Bool.not_eq_true', h, not_false_eq_true, true_and, and_assoc]

theorem lockCount_openBlocks : ∀ (ops : List LockOp) (d : Nat) (k : Nat),
    openBlocks d ops = some k → lockCount 1 (-1) (d : Int) ops = (k : Int)
  | [], d, k, h => by
    cases h
    rfl
  | .enter :: ops, d, k, h => lockCount_openBlocks ops (d + 1) k h
  | .exit :: ops, 0, k, h => nomatch h
  | .exit :: ops, d + 1, k, h => by
    rw [lockCount, Int.natCast_succ, Int.add_neg_cancel_right]
    exact lockCount_openBlocks ops d k h

end Delb.Gc
