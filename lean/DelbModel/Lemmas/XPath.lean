import DelbModel.Model.XPath.Parser
import DelbModel.Lemmas.XPath.Tokenizer
import DelbModel.Lemmas.XPath.TokenTree
import DelbModel.Lemmas.XPath.Group
import DelbModel.Lemmas.XPath.Expand
import DelbModel.Lemmas.XPath.Expr
import DelbModel.Lemmas.XPath.Step
/-!
# C16: the XPath tokenizer / parser model

* `XPath/Tokenizer.lean` — outcomes (`Sat`); `grab` consumes between 1 and all
  remaining characters; loop invariant of `tokenizeAux`: every token is a `Slice` of the input
* `XPath/TokenTree.lean` — `ErrOK`, sizes, the shape invariant `okSeq` / `WF` of token trees, where a token lies in the
  input (`PosLt`, `EndLe`, `Within`)
* `XPath/Group.lean` — `groupAux` produces well-formed trees and only positioned parsing errors
* `XPath/Expand.lean` — `expandAxes` and `partitionTokens` preserve the invariants; `axOK`
* `XPath/Expr.lean` — patterns (`Matches`), operators and `parseExpr_errsOK`
* `XPath/Step.lean` — `parsePreds` … `parse_errOK`
-/
