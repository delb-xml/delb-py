import DelbModel.Model.Compare
import DelbModel.Lemmas.AssocList
/-!
# `compare_trees` answers truthfully (C17)

`compare_sound` and `compareKids_sound` prove `Sound` of what `compare` and `compareKids` return, by one induction
along the recursion of the two functions; "equal exactly when equivalent" and the claim about the reported pair
are both read off from it.
-/
namespace Delb.Compare

def entry (x : Attr) : (String × String) × Str := ((x.ns, x.name), x.value)

theorem lookupAttr_eq_get (ns name : String) : ∀ l : List Attr,
    lookupAttr ns name l = Assoc.get (l.map entry) (ns, name)
  | [] => rfl
  | x :: l => by rw [lookupAttr, lookupAttr_eq_get ns name l]; rfl

theorem attrsEq_iff {a b : List Attr} (ha : uniqueKeys a) (hb : uniqueKeys b) :
    attrsEq a b = true ↔ sameDict a b := by
  have ha' : ((a.map entry).map (·.1)).Nodup := by rw [List.map_map]; exact ha
  have hb' : ((b.map entry).map (·.1)).Nodup := by rw [List.map_map]; exact hb
  have hd : sameDict a b ↔ ∀ e, e ∈ a.map entry ↔ e ∈ b.map entry := by
    simp only [sameDict, lookupAttr_eq_get, ← Assoc.get_eq_some_iff ha', ← Assoc.get_eq_some_iff hb']
    exact ⟨fun h e => by rw [h], fun h ns name => Option.ext fun v => h ((ns, name), v)⟩
  rw [hd, Assoc.same_entries_iff ha' hb']
  simp only [attrsEq, Bool.and_eq_true, beq_iff_eq, List.all_eq_true, List.length_map, List.forall_mem_map,
    lookupAttr_eq_get, Assoc.get_eq_some_iff hb']
  rfl

theorem sameDict_refl (a : List Attr) : sameDict a a := fun _ _ => rfl
theorem sameDict_symm {a b : List Attr} (h : sameDict a b) : sameDict b a :=
  fun ns name => (h ns name).symm

theorem Eqv.refl : ∀ a : Node, Eqv a a := by
  intro a
  refine Node.rec (motive_1 := fun a => Eqv a a) (motive_2 := fun l => EqvList l l)
    ?_ ?_ ?_ ?_ ?_ ?_ a
  · intro ns name attrs kids ih; exact Eqv.tag _ _ _ _ _ _ (sameDict_refl _) ih
  · exact Eqv.text
  · exact Eqv.comment
  · exact Eqv.pi
  · exact EqvList.nil
  · intro h t ih1 ih2; exact EqvList.cons _ _ _ _ ih1 ih2

theorem Eqv.symm : ∀ {a b : Node}, Eqv a b → Eqv b a := by
  intro a b h
  refine Eqv.rec (motive_1 := fun a b _ => Eqv b a) (motive_2 := fun l l' _ => EqvList l' l)
    ?_ ?_ ?_ ?_ ?_ ?_ h
  · exact Eqv.text
  · exact Eqv.comment
  · exact Eqv.pi
  · intro ns name a b ks ks' hd _ ih; exact Eqv.tag _ _ _ _ _ _ (sameDict_symm hd) ih
  · exact EqvList.nil
  · intro a b as bs _ _ ih1 ih2; exact EqvList.cons _ _ _ _ ih1 ih2

theorem Eqv.tag_inv {ns name ns' name' : String} {a a' : List Attr} {ks ks' : List Node}
    (e : Eqv (.tag ns name a ks) (.tag ns' name' a' ks')) :
    ns = ns' ∧ name = name' ∧ sameDict a a' ∧ EqvList ks ks' := by
  cases e; exact ⟨rfl, rfl, ‹_›, ‹_›⟩

theorem EqvList.cons_inv {x y : Node} {as bs : List Node} (e : EqvList (x :: as) (y :: bs)) :
    Eqv x y ∧ EqvList as bs := by
  cases e; exact ⟨‹_›, ‹_›⟩

theorem EqvList.length_eq : ∀ {l l' : List Node}, EqvList l l' → l.length = l'.length
  | _, _, .nil => rfl
  | _, _, .cons _ _ _ _ _ h => congrArg (· + 1) h.length_eq

theorem Eqv.leaf {x y : Node} (h : Eqv x y) :
    sameKind x y = true ∧ (x.isTag = false ∨ y.isTag = false → leafEq x y = true) := by
  cases h <;> simp [sameKind, leafEq, Node.isTag]

theorem eq_of_leafEq {a b : Node} : leafEq a b = true → a = b := by
  cases a <;> cases b <;> simp [leafEq]

theorem visibleList_length (f : Node → Bool) : ∀ ks, (visibleList f ks).length = (ks.filter f).length
  | [] => rfl
  | k :: ks => by
    rw [visibleList, List.filter_cons]
    split <;> simp [visibleList_length f ks]

theorem isTag_visible (f : Node → Bool) (a : Node) : (visible f a).isTag = a.isTag := by
  cases a <;> rfl

theorem sameKind_visible (f : Node → Bool) (a b : Node) :
    sameKind (visible f a) (visible f b) = sameKind a b := by
  cases a <;> cases b <;> rfl

theorem leafEq_visible (f : Node → Bool) (a b : Node) :
    leafEq (visible f a) (visible f b) = leafEq a b := by
  cases a <;> cases b <;> rfl

theorem skipHidden_nil {f : Node → Bool} : ∀ {bs}, skipHidden f bs = [] → visibleList f bs = []
  | [], _ => rfl
  | b :: bs, h => by
    rw [skipHidden] at h
    rw [visibleList]
    split at h
    · cases h
    · rw [if_neg ‹_›]; exact skipHidden_nil h

theorem skipHidden_cons {f : Node → Bool} {b : Node} {bs' : List Node} :
    ∀ {bs}, skipHidden f bs = b :: bs' → wellFormedList bs →
      visibleList f bs = visible f b :: visibleList f bs' ∧ wellFormed b ∧ wellFormedList bs'
  | c :: bs, h, hw => by
    rw [skipHidden] at h
    rw [visibleList]
    split at h
    · cases h; rw [if_pos ‹_›]; exact ⟨rfl, hw⟩
    · rw [if_neg ‹_›]; exact skipHidden_cons h hw.2

/-- the verdict `r` on the visible trees `a` and `b` is right -/
def Sound (a b : Node) : Option (Diff × List Nat) → Prop
  | none => Eqv a b
  | some (d, p) => ¬ Eqv a b ∧ ∃ x y, nodeAt a p = some x ∧ nodeAt b p = some y ∧ DiffersIn d x y

/-- the same for two lists of visible children compared from index `i` on; "equal" is only said of the common
    prefix, so it means equivalent for lists of one length -/
def SoundKids (i : Nat) (as bs : List Node) : Option (Diff × List Nat) → Prop
  | none => as.length = bs.length → EqvList as bs
  | some (d, p) => ¬ EqvList as bs ∧ ∃ j p', p = (i + j) :: p' ∧ ∃ x' y', as[j]? = some x' ∧ bs[j]? = some y' ∧
      ∃ x y, nodeAt x' p' = some x ∧ nodeAt y' p' = some y ∧ DiffersIn d x y

theorem Sound.none_iff {a b : Node} {r} (h : Sound a b r) : r = none ↔ Eqv a b := by
  cases r with
  | none => exact ⟨fun _ => h, fun _ => rfl⟩
  | some _ => exact ⟨nofun, fun e => absurd e h.1⟩

theorem SoundKids.none_iff {i : Nat} {as bs : List Node} {r} (h : SoundKids i as bs r)
    (hl : as.length = bs.length) : r = none ↔ EqvList as bs := by
  cases r with
  | none => exact ⟨fun _ => h hl, fun _ => rfl⟩
  | some _ => exact ⟨nofun, fun e => absurd e h.1⟩

theorem SoundKids.cons {i : Nat} {x y : Node} {as bs : List Node} {r} (hxy : Eqv x y)
    (h : SoundKids (i + 1) as bs r) : SoundKids i (x :: as) (y :: bs) r := by
  cases r with
  | none => exact fun hl => .cons _ _ _ _ hxy (h (Nat.succ.inj hl))
  | some _ =>
    obtain ⟨hn, j, p', hp, h⟩ := h
    exact ⟨fun e => hn e.cons_inv.2, j + 1, p', by rw [hp, Nat.add_right_comm]; rfl, h⟩

theorem SoundKids.tag {ns name : String} {a b : List Attr} {ks ks' : List Node} {r} (hd : sameDict a b)
    (hl : ks.length = ks'.length) (h : SoundKids 0 ks ks' r) :
    Sound (.tag ns name a ks) (.tag ns name b ks') r := by
  cases r with
  | none => exact .tag _ _ _ _ _ _ hd (h hl)
  | some _ =>
    obtain ⟨hn, j, p', hp, x', y', hx', hy', x, y, hx, hy, h⟩ := h
    refine ⟨fun e => hn e.tag_inv.2.2.2, x, y, ?_, ?_, h⟩
    · rw [hp, Nat.zero_add, nodeAt, hx']; exact hx
    · rw [hp, Nat.zero_add, nodeAt, hy']; exact hy

theorem compare_leaf (f : Node → Bool) {a b : Node} (h : a.isTag = false ∨ b.isTag = false) :
    compare f a b =
      if sameKind a b = false then some (.nodeType, [])
      else if leafEq a b = false then some (.nodeContent, []) else none := by
  rw [compare.eq_2 f a b (fun _ _ _ _ _ _ _ _ ha hb => by subst ha hb; simp [Node.isTag] at h)]
  simp only [Bool.not_eq_true']

theorem compare_tag (f : Node → Bool) (ns name : String) (attrs : List Attr) (kids : List Node)
    (ns' name' : String) (attrs' : List Attr) (kids' : List Node) :
    compare f (.tag ns name attrs kids) (.tag ns' name' attrs' kids') =
      if ns ≠ ns' then some (.tagNamespace, [])
      else if name ≠ name' then some (.tagLocalName, [])
      else if attrsEq attrs attrs' = false then some (.tagAttributes, [])
      else if (kids.filter f).length ≠ (kids'.filter f).length then some (.tagChildrenSize, [])
      else compareKids f 0 kids kids' := by
  simp only [compare.eq_1, bne_iff_ne, Bool.not_eq_true']

theorem compare_leaf_sound (f : Node → Bool) {a b : Node} (h : a.isTag = false ∨ b.isTag = false) :
    Sound (visible f a) (visible f b) (compare f a b) := by
  have hr := fun e : Eqv (visible f a) (visible f b) => e.leaf
  rw [sameKind_visible, leafEq_visible, isTag_visible, isTag_visible] at hr
  rw [compare_leaf f h]
  cases hk : sameKind a b
  · exact ⟨fun e => Bool.false_ne_true (hk.symm.trans (hr e).1), _, _, rfl, rfl, (sameKind_visible ..).trans hk⟩
  · cases hc : leafEq a b
    · exact ⟨fun e => Bool.false_ne_true (hc.symm.trans ((hr e).2 h)), _, _, rfl, rfl,
        (sameKind_visible ..).trans hk, (leafEq_visible ..).trans hc⟩
    · rw [eq_of_leafEq hc]; exact Eqv.refl _

mutual
theorem compare_sound (f : Node → Bool) : ∀ (a b : Node), wellFormed a → wellFormed b →
    Sound (visible f a) (visible f b) (compare f a b)
  | .tag ns name attrs kids, .tag ns' name' attrs' kids', ⟨ha, hk⟩, ⟨hb, hk'⟩ => by
    rw [compare_tag, visible, visible]
    by_cases h1 : ns = ns'
    case neg => rw [if_pos h1]; exact ⟨fun e => h1 e.tag_inv.1, _, _, rfl, rfl, h1⟩
    by_cases h2 : name = name'
    case neg => rw [if_neg (· h1), if_pos h2]; exact ⟨fun e => h2 e.tag_inv.2.1, _, _, rfl, rfl, h1, h2⟩
    rw [if_neg (· h1), if_neg (· h2), ← visibleList_length, ← visibleList_length]
    cases h1; cases h2
    cases h3 : attrsEq attrs attrs'
    · have h : ¬ sameDict attrs attrs' := fun hd => Bool.false_ne_true (h3.symm.trans ((attrsEq_iff ha hb).2 hd))
      exact ⟨fun e => h e.tag_inv.2.2.1, _, _, rfl, rfl, h⟩
    rw [if_neg nofun]
    by_cases h4 : (visibleList f kids).length = (visibleList f kids').length
    case neg =>
      rw [if_pos h4]
      exact ⟨fun e => h4 e.tag_inv.2.2.2.length_eq, _, _, rfl, rfl, h4⟩
    rw [if_neg (· h4)]
    exact (compareKids_sound f kids kids' 0 hk hk').tag ((attrsEq_iff ha hb).1 h3) h4
  | .tag .., .text _, _, _ => compare_leaf_sound f (.inr rfl)
  | .tag .., .comment _, _, _ => compare_leaf_sound f (.inr rfl)
  | .tag .., .pi .., _, _ => compare_leaf_sound f (.inr rfl)
  | .text _, _, _, _ => compare_leaf_sound f (.inl rfl)
  | .comment _, _, _, _ => compare_leaf_sound f (.inl rfl)
  | .pi .., _, _, _ => compare_leaf_sound f (.inl rfl)
theorem compareKids_sound (f : Node → Bool) : ∀ (as bs : List Node) (i : Nat),
    wellFormedList as → wellFormedList bs →
    SoundKids i (visibleList f as) (visibleList f bs) (compareKids f i as bs)
  | [], bs, i, _, _ => fun hl => by rw [List.eq_nil_of_length_eq_zero hl.symm]; exact .nil
  | a :: as, bs, i, ⟨ha, has⟩, hb => by
    rw [compareKids.eq_2, visibleList]
    by_cases hfa : f a = true
    · rw [if_pos hfa, if_pos hfa]
      cases hs : skipHidden f bs with
      | nil => rw [skipHidden_nil hs]; exact nofun
      | cons b bs' =>
        obtain ⟨hvis, hwb, hwbs'⟩ := skipHidden_cons hs hb
        rw [hvis]
        dsimp only
        have ih := compare_sound f a b ha hwb
        cases hc : compare f a b with
        | none => rw [hc] at ih; exact (compareKids_sound f as bs' (i + 1) has hwbs').cons ih
        | some dp =>
          rw [hc] at ih
          exact ⟨fun e => ih.1 e.cons_inv.1, 0, dp.2, rfl, _, _, rfl, rfl, ih.2⟩
    · rw [if_neg hfa, if_neg hfa]; exact compareKids_sound f as bs i has hb
end

theorem compareKids_none_iff (f : Node → Bool) : ∀ (as bs : List Node) (i : Nat),
    wellFormedList as → wellFormedList bs → (as.filter f).length = (bs.filter f).length →
    (compareKids f i as bs = none ↔ EqvList (visibleList f as) (visibleList f bs)) :=
  fun as bs i ha hb hl => (compareKids_sound f as bs i ha hb).none_iff
    (by rw [visibleList_length, visibleList_length, hl])

theorem compareKids_some (f : Node → Bool) : ∀ (as bs : List Node) (i : Nat),
    wellFormedList as → wellFormedList bs →
    ∀ (d : Diff) (p : List Nat), compareKids f i as bs = some (d, p) →
    ∃ j p', p = (i + j) :: p' ∧ ∃ x' y', (visibleList f as)[j]? = some x' ∧
      (visibleList f bs)[j]? = some y' ∧
      ∃ x y, nodeAt x' p' = some x ∧ nodeAt y' p' = some y ∧ DiffersIn d x y :=
  fun as bs i ha hb d p hc => by
    have h := compareKids_sound f as bs i ha hb
    rw [hc] at h
    exact h.2

end Delb.Compare
