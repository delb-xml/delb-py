import DelbModel.Model.XPath.Create
import DelbModel.Model.Clone
import DelbModel.Lemmas.XPathEval
import DelbModel.Lemmas.Create.Defs
import DelbModel.Lemmas.Create.Eval
import DelbModel.Lemmas.Create.Tree
import DelbModel.Lemmas.Create.NewNode
import DelbModel.Lemmas.Create.Main
import DelbModel.Lemmas.Create.Untouched
import DelbModel.Lemmas.Create.Minimal
import DelbModel.Lemmas.Create.Call
/-!
# C15: `fetch_or_create_by_xpath`

* `Create/Defs.lean` — vocabulary of the extra hypotheses (`stepPrefixesBound`, `consistentStepIn`)
* `Create/Eval.lean` — closed forms: a locatable step with bound prefixes evaluates, without errors, to
  the children passing a node-local Boolean test (`evalStep_single`)
* `Create/Tree.lean` — `modifyAtP` changes nothing a locatable step can see except strictly below the
  address (`Below`); where `append_children` puts a node (`appendIndex_spec`); two edits at one address are one
  (`modifyAtP_comp`, `appendChildAt_fill`)
* `Create/NewNode.lean` — the node built for a step passes the step's tests (`stepB_new`)
* `Create/Main.lean` — the successful runs of the loop and of the call (`createSteps_ok_induct`,
  `fetchOrCreate_ok_cases`), the loop invariant (`createSteps_selected`)
* `Create/Untouched.lean` — deleting the nodes with fresh identities undoes an insertion of such a node
* `Create/Minimal.lean` — what is added is one chain below the deepest match, one node per missing step
  (`createSteps_shape`, `createSteps_branch`), so only nodes with fresh identities (`fetchOrCreate_untouched`)
* `Create/Call.lean` — the up-front prefix check makes `stepPrefixesBound` derivable (`stepPrefixesBound_of_checked`);
  after a successful call the expression selects the returned node (`fetchOrCreate_selected_of`)
-/
