import DelbModel.Lemmas.Dict
/-!
# The prefix collection `_collect_prefixes` (C13)

`findFree` takes the first free candidate of its range.  The loops keep the invariant `Inv`, which, once every
namespace of the tree is bound, gives what C13 promises (`Inv.pmapOk`); the valid breadth-first orders enumerate
exactly the namespaces of the tree (`mem_orders_iff`).
-/
namespace Delb.Ser

/-- the `j`-th candidate of `_new_namespace_declaration` (without the colon) -/
def genPrefix (j : Nat) : String := "ns" ++ natToStr j

theorem natToStr_toList (n : Nat) : (natToStr n).toList = Nat.toDigits 10 n := by
  show (Nat.repr n).toList = _
  simp [Nat.repr, String.toList_ofList]

theorem natToStr_no_colon (n : Nat) : ':' ∉ (natToStr n).toList := by
  rw [natToStr_toList]
  intro h
  exact absurd (Nat.isDigit_of_mem_toDigits (by decide) (by decide) h) (by decide)

theorem genPrefix_ne_empty (i : Nat) : genPrefix i ≠ "" := by
  intro h
  have := congrArg String.toList h
  simp [genPrefix, String.toList_append] at this

theorem genPrefix_no_colon (i : Nat) : ':' ∉ (genPrefix i).toList := by
  rw [genPrefix, String.toList_append]
  intro h
  rcases List.mem_append.mp h with h | h
  · revert h; decide
  · exact natToStr_no_colon i h

theorem findFree_eq (nsmap m : Dict) (i fuel : Nat) : findFree nsmap m i fuel =
    ((List.range' i fuel).find? (fun j =>
      !(dvalues m).contains (genPrefix j ++ ":") && (dget nsmap (genPrefix j)).isNone)).map
      (fun j => genPrefix j ++ ":") := by
  induction fuel generalizing i with
  | zero => rfl
  | succ fuel ih =>
    rw [findFree, List.range'_succ, List.find?_cons, ih]
    -- `findFree` spells `genPrefix i` out
    show (if (!(dvalues m).contains (genPrefix i ++ ":") && (dget nsmap (genPrefix i)).isNone) = true then _ else _) = _
    cases !(dvalues m).contains (genPrefix i ++ ":") && (dget nsmap (genPrefix i)).isNone <;> rfl

theorem findFree_spec {nsmap m : Dict} {fuel i : Nat} {p : String}
    (h : findFree nsmap m i fuel = some p) :
    ∃ j, p = genPrefix j ++ ":" ∧ p ∉ dvalues m ∧ dget nsmap (genPrefix j) = none := by
  rw [findFree_eq, Option.map_eq_some_iff] at h
  obtain ⟨j, hj, rfl⟩ := h
  have := List.find?_some hj
  simp only [Bool.and_eq_true, Bool.not_eq_true', List.contains_eq_mem, decide_eq_false_iff_not, Option.isNone_iff_eq_none] at this
  exact ⟨j, rfl, this.1, this.2⟩

/-! ## the invariant of `_collect_prefixes` -/

/-- where a collected prefix comes from: empty, or `q:` with `q` the caller's prefix for the
    namespace or a prefix the caller does not use -/
def Origin (nsmap : Dict) (ns v : String) : Prop :=
  v = "" ∨ ∃ q : String, v = q ++ ":" ∧ q ≠ "" ∧ ':' ∉ q.toList ∧
    (lookupPrefix nsmap ns = some q ∨ dget nsmap q = none)

/-- the invariant of the loops of `_collect_prefixes`: `PMapOk` without `total`, which holds at the end, and with
    `origin`, from which `shape`, `xmlPrefix` and `xmlnsPrefix` follow for an accepted mapping -/
structure Inv (nsmap m : Dict) : Prop where
  keysNodup : (dkeys m).Nodup
  inj : ∀ a b p, dget m a = some p → dget m b = some p → a = b
  emptyNs : ∀ p, dget m "" = some p → p = ""
  origin : ∀ ns v, dget m ns = some v → Origin nsmap ns v
  caller : ∀ ns v q, dget m ns = some v → ns ≠ "" → lookupPrefix nsmap ns = some q → q ≠ "" →
    v = q ++ ":"

theorem Inv.nil (nsmap : Dict) : Inv nsmap [] :=
  ⟨List.nodup_nil, fun _ _ _ h => (nomatch h), fun _ h => (nomatch h), fun _ _ h => (nomatch h),
    fun _ _ _ h => (nomatch h)⟩

theorem Inv.dset {nsmap m : Dict} (h : Inv nsmap m) {ns v : String}
    (hfresh : ∀ k, dget m k ≠ some v)
    (hE : ns = "" → v = "")
    (hO : Origin nsmap ns v)
    (hC : ns ≠ "" → ∀ q, lookupPrefix nsmap ns = some q → q ≠ "" → v = q ++ ":") :
    Inv nsmap (dset m ns v) := by
  refine ⟨nodup_dkeys_dset h.keysNodup _ _, dget_dset_inj hfresh h.inj, ?_, forall_dget_dset h.origin hO, ?_⟩
  · exact fun p hp => forall_dget_dset (P := fun a w => a = "" → w = "")
      (fun a w ha he => h.emptyNs w (he ▸ ha)) hE "" p hp rfl
  · exact fun a w q ha hne => forall_dget_dset
      (P := fun a w => a ≠ "" → ∀ q, lookupPrefix nsmap a = some q → q ≠ "" → w = q ++ ":")
      (fun a w ha hne q => h.caller a w q ha hne) hC a w ha hne q

theorem Inv.dset_empty {nsmap m : Dict} (h : Inv nsmap m) (hfresh : ∀ k, dget m k ≠ some "") :
    Inv nsmap (Ser.dset m "" "") :=
  h.dset hfresh (fun _ => rfl) (Or.inl rfl) (fun hne => absurd rfl hne)

theorem newDecl_ok {nsmap m m' : Dict} {ns : String} (h : newDecl nsmap m ns = .ok m') :
    ∃ j, m' = dset m ns (genPrefix j ++ ":") ∧ (genPrefix j ++ ":") ∉ dvalues m ∧
      dget nsmap (genPrefix j) = none := by
  unfold newDecl at h
  split at h
  · rename_i p hp
    obtain ⟨j, rfl, h1, h2⟩ := findFree_spec hp
    cases h
    exact ⟨j, rfl, h1, h2⟩
  · cases h

theorem newDecl_error {nsmap m : Dict} {ns : String} {e : Err} (h : newDecl nsmap m ns = .error e) :
    e = .notImplemented := by
  unfold newDecl at h
  split at h <;> cases h
  rfl

theorem Inv.newDecl {nsmap m m' : Dict} (h : Inv nsmap m) {ns : String}
    (hns : ns ≠ "")
    (hC : ∀ q, lookupPrefix nsmap ns = some q → q = "")
    (hd : newDecl nsmap m ns = .ok m') :
    Inv nsmap m' ∧ ∃ p, m' = Ser.dset m ns p ∧ p ≠ "" := by
  obtain ⟨j, rfl, hfresh, hnone⟩ := newDecl_ok hd
  exact ⟨h.dset (dget_ne_of_not_mem_dvalues hfresh) (fun he => absurd he hns)
    (Or.inr ⟨_, rfl, genPrefix_ne_empty j, genPrefix_no_colon j, Or.inr hnone⟩)
    (fun _ q hl hq => absurd (hC q hl) hq), _, rfl, str_append_ne_empty _⟩

theorem Inv.bound_prefix {nsmap m : Dict} (hn : NsMapOk nsmap) (h : Inv nsmap m)
    {g gns ns : String} (hg : dget nsmap g = some gns) (hd : dget m ns = some (g ++ ":")) : ns = gns := by
  rcases h.origin ns _ hd with ho | ⟨q, hq, _, _, ho⟩
  · exact absurd ho (str_append_ne_empty g)
  · obtain rfl : g = q := str_append_colon_inj hq
    rcases ho with ho | ho
    · rw [lookupPrefix_dget hn.keysNodup ho] at hg
      exact Option.some.inj hg
    · rw [hg] at ho
      cases ho

theorem Inv.pmapOk {nsmap m : Dict} {t : Node} (hn : NsMapOk nsmap) (h : Inv nsmap m)
    (htotal : ∀ ns ∈ treeNamespaces t, ns ∈ dkeys m) : PMapOk nsmap m t where
  total ns hns := dget_isSome_iff.mpr (htotal ns hns)
  injective := h.inj
  emptyNs := h.emptyNs
  shape ns p hp := (h.origin ns p hp).imp id fun ⟨q, hq, hq1, hq2, _⟩ => ⟨q, hq, hq1, hq2⟩
  caller ns q p hns hl hq hp := h.caller ns p q hp hns hl hq
  keysNodup := h.keysNodup
  xmlPrefix _ hd := h.bound_prefix hn hn.xml (xml_colon_lit.1 ▸ hd)
  xmlnsPrefix _ hd := h.bound_prefix hn hn.xmlns (xml_colon_lit.2 ▸ hd)

/-- The branches of `collectOne`, the body of the inner loop of `_collect_prefixes`; the branch
    "default prefix already used" cannot be reached, its test having failed just before. -/
theorem collectOne_cases {nsmap m : Dict} {ns : String} {C : Except Err Dict → Prop}
    (bound : (dget m ns).isSome → C (.ok m))
    (moveErr : ∀ other x e, ns = "" → dget m ns = none →
      m.find? (fun e => e.2 == "") = some (other, x) → newDecl nsmap m other = .error e → C (.error e))
    (moveOk : ∀ other x m₁, ns = "" → dget m ns = none →
      m.find? (fun e => e.2 == "") = some (other, x) → newDecl nsmap m other = .ok m₁ →
      C (.ok (dset m₁ "" "")))
    (fresh : ns = "" → dget m ns = none → m.find? (fun e => e.2 == "") = none →
      C (.ok (dset m "" "")))
    (gen : ns ≠ "" → dget m ns = none → (∀ q, lookupPrefix nsmap ns = some q → q = "") →
      C (newDecl nsmap m ns))
    (clash : ∀ p, ns ≠ "" → dget m ns = none → lookupPrefix nsmap ns = some p → p ≠ "" →
      (p ++ ":") ∈ dvalues m → C (.error (.assertion "prefix already used")))
    (keep : ∀ p, ns ≠ "" → dget m ns = none → lookupPrefix nsmap ns = some p → p ≠ "" →
      (p ++ ":") ∉ dvalues m → C (.ok (dset m ns (p ++ ":"))))
    (dflt : ns ≠ "" → dget m ns = none → lookupPrefix nsmap ns = some "" → "" ∉ dvalues m →
      C (.ok (dset m ns ""))) :
    C (collectOne nsmap m ns) := by
  unfold collectOne
  by_cases hsome : (dget m ns).isSome = true
  · rw [if_pos hsome]; exact bound hsome
  rw [if_neg hsome]
  have hnone : dget m ns = none := by simpa using hsome
  by_cases hns : ns = ""
  · rw [if_pos (by simpa using hns)]
    cases hfind : m.find? (fun e => e.2 == "") with
    | none => subst hns; exact fresh rfl hnone hfind
    | some e =>
      obtain ⟨other, x⟩ := e
      dsimp only
      cases hd : newDecl nsmap m other with
      | error e => exact moveErr other x e hns hnone hfind hd
      | ok m₁ => exact moveOk other x m₁ hns hnone hfind hd
  rw [if_neg (by simpa using hns)]
  cases hl : lookupPrefix nsmap ns with
  | none => exact gen hns hnone (fun q hq => by rw [hl] at hq; cases hq)
  | some p =>
    dsimp only
    by_cases hp : p = ""
    · subst hp
      by_cases hc : "" ∈ dvalues m
      · rw [if_pos (by simpa using hc)]
        exact gen hns hnone (fun q hq => by rw [hl] at hq; exact (Option.some.inj hq).symm)
      · rw [if_neg (by simpa using hc), if_neg (by simp), if_neg (by simpa using hc)]
        exact dflt hns hnone hl hc
    · rw [if_neg (by simp [hp]), if_pos (by simpa using hp)]
      by_cases hv : (p ++ ":") ∈ dvalues m
      · rw [if_pos (by simpa using hv)]; exact clash p hns hnone hl hp hv
      · rw [if_neg (by simpa using hv)]; exact keep p hns hnone hl hp hv

/-- what one step of the inner loop promises about its result -/
def StepOk (nsmap m : Dict) (ns : String) (r : Except Err Dict) : Prop :=
  (∀ site, r ≠ .error (.assertion site)) ∧
  ∀ m', r = .ok m' → Inv nsmap m' ∧ ∀ k, k ∈ dkeys m' ↔ k = ns ∨ k ∈ dkeys m

theorem StepOk.ok {nsmap m m' : Dict} {ns : String} (h : Inv nsmap m')
    (hk : ∀ k, k ∈ dkeys m' ↔ k = ns ∨ k ∈ dkeys m) : StepOk nsmap m ns (.ok m') :=
  ⟨fun _ hs => (nomatch hs), fun _ e => by cases e; exact ⟨h, hk⟩⟩

theorem StepOk.dset {nsmap m : Dict} {ns v : String} (h : Inv nsmap (dset m ns v)) :
    StepOk nsmap m ns (.ok (dset m ns v)) :=
  .ok h (mem_dkeys_dset m ns v)

theorem StepOk.newDecl {nsmap m : Dict} {ns : String} (h : Inv nsmap m) (hns : ns ≠ "")
    (hC : ∀ q, lookupPrefix nsmap ns = some q → q = "") :
    StepOk nsmap m ns (newDecl nsmap m ns) := by
  refine ⟨fun s hs => (nomatch newDecl_error hs), fun m' hm' => ?_⟩
  obtain ⟨hinv, p, rfl, _⟩ := h.newDecl hns hC hm'
  exact (StepOk.dset hinv).2 _ rfl

theorem collectOne_spec {nsmap m : Dict} (hn : NsMapOk nsmap) (h : Inv nsmap m) (ns : String) :
    StepOk nsmap m ns (collectOne nsmap m ns) := by
  refine collectOne_cases (C := StepOk nsmap m ns) ?_ ?_ ?_ ?_ ?_ ?_ ?_ ?_
  · intro hsome
    exact .ok h fun k => ⟨Or.inr, fun hk => hk.elim (· ▸ dget_isSome_iff.mp hsome) id⟩
  · intro other x e _ _ _ he
    exact ⟨fun s hs => (by cases hs; cases newDecl_error he), fun _ hm => nomatch hm⟩
  · -- `__redeclare_empty_prefix`: the holder of the empty prefix gets a generated one
    intro other x m₁ hns hnone hfind hm₁
    subst hns
    have hother := dget_of_mem h.keysNodup (find_value_some hfind)
    have hone : other ≠ "" := by
      intro he; subst he; rw [hnone] at hother; cases hother
    have hC : ∀ q, lookupPrefix nsmap other = some q → q = "" := fun q hl =>
      Decidable.byContradiction fun hq => str_append_ne_empty q (h.caller other "" q hother hone hl hq).symm
    obtain ⟨hinv1, p, rfl, hp⟩ := h.newDecl hone hC hm₁
    refine .ok (hinv1.dset_empty fun k hk => ?_) fun k => ?_
    · rw [dget_dset] at hk
      split at hk
      · cases hk; exact hp rfl
      · rename_i hne
        exact hne (h.inj _ _ _ hother hk)
    · rw [mem_dkeys_dset, mem_dkeys_dset]
      exact or_congr_right ⟨fun hk => hk.elim (· ▸ mem_dkeys_of_mem (mem_of_dget hother)) id, Or.inr⟩
  · intro hns _ hfind
    subst hns
    exact .dset (h.dset_empty fun k hk => find_value_none hfind k (mem_of_dget hk))
  · intro hns _ hC
    exact .newDecl h hns hC
  · -- the assertion site: a holder of `p:` is the namespace the caller binds `p` to, which is `ns`
    intro p _ hnone hl _ hmem
    obtain ⟨k, hk⟩ := (mem_dvalues_iff h.keysNodup).mp hmem
    obtain rfl := h.bound_prefix hn (lookupPrefix_dget hn.keysNodup hl) hk
    rw [hnone] at hk
    cases hk
  · intro p hns _ hl hp hfree
    refine .dset (h.dset (dget_ne_of_not_mem_dvalues hfree) (fun he => absurd he hns) ?_ ?_)
    · exact Or.inr ⟨p, rfl, hp, hn.noColon p (mem_dkeys_of_mem (lookupPrefix_mem hl)), Or.inl hl⟩
    · intro _ q hq _
      rw [hl] at hq
      cases hq
      rfl
  · intro hns _ hl hfree
    refine .dset (h.dset (dget_ne_of_not_mem_dvalues hfree) (fun he => absurd he hns) (Or.inl rfl) ?_)
    intro _ q hq hq'
    rw [hl] at hq
    cases hq
    exact absurd rfl hq'

theorem collectMany_append (nsmap : Dict) : ∀ (a b : List String) (m : Dict),
    collectMany nsmap m (a ++ b) = (collectMany nsmap m a).bind (fun m' => collectMany nsmap m' b)
  | [], _, _ => rfl
  | ns :: a, b, m => by
    simp only [List.cons_append, collectMany]
    cases collectOne nsmap m ns with
    | error e => rfl
    | ok m' => exact collectMany_append nsmap a b m'

theorem collectNodes_eq (nsmap : Dict) : ∀ (orders : List (List String)) (m : Dict),
    collectNodes nsmap m orders = collectMany nsmap m orders.flatten
  | [], _ => rfl
  | nss :: rest, m => by
    rw [List.flatten_cons, collectMany_append, collectNodes]
    cases collectMany nsmap m nss with
    | error e => rfl
    | ok m' => exact collectNodes_eq nsmap rest m'

theorem collect_eq (nsmap : Dict) (root : Node) (orders : List (List String)) :
    collect nsmap root orders =
      collectMany nsmap (if (dvalues nsmap).contains (rootNs root) then [] else [(rootNs root, "")])
        orders.flatten :=
  collectNodes_eq nsmap orders _

theorem collectMany_induction {nsmap : Dict} {P : Dict → Prop} {nss : List String} {m m' : Dict}
    (step : ∀ ns ∈ nss, ∀ m m', P m → collectOne nsmap m ns = .ok m' → P m') (h : P m)
    (hm : collectMany nsmap m nss = .ok m') : P m' := by
  induction nss generalizing m with
  | nil => cases hm; exact h
  | cons ns rest ih =>
    rw [collectMany] at hm
    cases hm₁ : collectOne nsmap m ns with
    | error e => rw [hm₁] at hm; cases hm
    | ok m₁ =>
      rw [hm₁] at hm
      exact ih (fun x hx => step x (List.mem_cons_of_mem _ hx)) (step ns List.mem_cons_self m m₁ h hm₁) hm

theorem collectMany_spec {nsmap : Dict} (hn : NsMapOk nsmap) :
    ∀ (nss : List String) {m : Dict}, Inv nsmap m →
    (∀ site, collectMany nsmap m nss ≠ .error (.assertion site)) ∧
    ∀ m', collectMany nsmap m nss = .ok m' → Inv nsmap m' ∧ ∀ k, k ∈ dkeys m' ↔ k ∈ nss ∨ k ∈ dkeys m := by
  intro nss
  induction nss with
  | nil =>
    intro m h
    exact ⟨fun s hs => (nomatch hs), fun m' hm' => by cases hm'; exact ⟨h, by simp⟩⟩
  | cons ns rest ih =>
    intro m h
    obtain ⟨h1, h2⟩ := collectOne_spec hn h ns
    simp only [collectMany]
    split
    · rename_i e he
      exact ⟨fun s hs => (by cases hs; exact h1 _ he), fun m' hm' => nomatch hm'⟩
    · rename_i m1 hm1
      obtain ⟨hinv1, hk1⟩ := h2 m1 hm1
      obtain ⟨h3, h4⟩ := ih hinv1
      refine ⟨h3, fun m' hm' => ⟨(h4 m' hm').1, fun k => ?_⟩⟩
      rw [(h4 m' hm').2 k, hk1 k, List.mem_cons, or_left_comm, or_assoc]

/-- the map `_collect_prefixes` starts from: the root's namespace as default, unless the caller binds it -/
theorem Inv.m0 (nsmap : Dict) (r : String) :
    Inv nsmap (if (dvalues nsmap).contains r then [] else [(r, "")]) := by
  split
  · exact Inv.nil nsmap
  · rename_i hr
    exact (Inv.nil nsmap).dset (ns := r) (v := "") (fun _ h => nomatch h) (fun _ => rfl) (Or.inl rfl)
      (fun _ q hl => absurd (List.contains_iff_mem.mpr (mem_dvalues_of_mem (lookupPrefix_mem hl))) hr)

theorem collect_spec {nsmap : Dict} (hn : NsMapOk nsmap) (root : Node)
    (orders : List (List String)) :
    (∀ site, collect nsmap root orders ≠ .error (.assertion site)) ∧
    ∀ m', collect nsmap root orders = .ok m' →
      Inv nsmap m' ∧ (∀ ns ∈ orders.flatten, ns ∈ dkeys m') := by
  rw [collect_eq]
  obtain ⟨h1, h2⟩ := collectMany_spec hn orders.flatten (Inv.m0 nsmap (rootNs root))
  exact ⟨h1, fun m' hm' => ⟨(h2 m' hm').1, fun ns hns => ((h2 m' hm').2 ns).mpr (Or.inl hns)⟩⟩


/-! ## the breadth-first traversal -/

theorem mem_dedup {x : String} : ∀ {l : List String}, x ∈ dedup l ↔ x ∈ l := by
  intro l
  induction l with
  | nil => simp [dedup]
  | cons y ys ih =>
    simp only [dedup]
    split
    · rename_i hc
      have hy : y ∈ ys := by simpa using hc
      rw [ih, List.mem_cons]
      constructor
      · exact Or.inr
      · rintro (h | h)
        · subst h; exact hy
        · exact h
    · simp [ih]

theorem nodup_dedup : ∀ (l : List String), (dedup l).Nodup := by
  intro l
  induction l with
  | nil => simp [dedup]
  | cons x xs ih =>
    simp only [dedup]
    split
    · exact ih
    · rename_i hc
      refine List.nodup_cons.mpr ⟨?_, ih⟩
      rw [mem_dedup]
      simpa using hc

theorem treeNamespaces_tag {n : Node} {ns : String} (h : ns ∈ treeNamespaces n) : n.isTag = true := by
  cases n <;> simp [treeNamespaces, Node.isTag] at h ⊢

theorem mem_kidsNamespaces {ns : String} : ∀ {kids : List Node},
    ns ∈ kidsNamespaces kids ↔ ∃ k ∈ kids, ns ∈ treeNamespaces k
  | [] => by simp [kidsNamespaces]
  | k :: ks => by simp [kidsNamespaces, mem_kidsNamespaces (kids := ks)]

theorem nodeDepth_le_kidsDepth {k : Node} : ∀ {kids : List Node}, k ∈ kids →
    nodeDepth k ≤ kidsDepth kids := by
  intro kids
  induction kids with
  | nil => simp
  | cons k' ks ih =>
    intro h
    simp only [kidsDepth]
    rcases List.mem_cons.mp h with h | h
    · subst h; omega
    · have := ih h; omega

theorem nodeDepth_tagKids {t k : Node} (h : k ∈ tagKids t) : nodeDepth k + 1 ≤ nodeDepth t := by
  cases t with
  | tag ns name attrs kids =>
    simp only [tagKids, List.mem_filter] at h
    have := nodeDepth_le_kidsDepth h.1
    simp only [nodeDepth]
    omega
  | _ => simp [tagKids] at h

theorem mem_treeNamespaces_iff {t : Node} {ns : String} :
    ns ∈ treeNamespaces t ↔ ns ∈ nodeNamespaces t ∨ ∃ k ∈ tagKids t, ns ∈ treeNamespaces k := by
  cases t with
  | tag tns name attrs kids =>
    rw [treeNamespaces, nodeNamespaces, tagKids, mem_dedup, List.mem_append, mem_kidsNamespaces]
    refine or_congr_right ⟨fun ⟨k, hk, h⟩ => ⟨k, List.mem_filter.mpr ⟨hk, treeNamespaces_tag h⟩, h⟩,
      fun ⟨k, hk, h⟩ => ⟨k, (List.mem_filter.mp hk).1, h⟩⟩
  | _ =>
    constructor
    · intro h; cases h
    · rintro (h | ⟨_, h, _⟩) <;> cases h

theorem bfsLevels_succ (fuel : Nat) (level : List Node) :
    bfsLevels (fuel + 1) level = level ++ bfsLevels fuel (level.flatMap tagKids) := by
  cases level with
  | nil => cases fuel <;> rfl
  | cons t ts => rfl

theorem mem_bfsLevels_iff {ns : String} (fuel : Nat) (level : List Node) (hd : ∀ t ∈ level, nodeDepth t ≤ fuel) :
    (∃ n ∈ bfsLevels fuel level, ns ∈ nodeNamespaces n) ↔ ∃ t ∈ level, ns ∈ treeNamespaces t := by
  induction fuel generalizing level with
  | zero =>
    have : level = [] := List.eq_nil_iff_forall_not_mem.mpr fun t ht => by
      have := hd t ht
      cases t <;> simp [nodeDepth] at this
    simp [this, bfsLevels]
  | succ fuel ih =>
    have hnext : ∀ k ∈ level.flatMap tagKids, nodeDepth k ≤ fuel := by
      intro k hk
      obtain ⟨t, ht, hkt⟩ := List.mem_flatMap.mp hk
      have := nodeDepth_tagKids hkt
      have := hd t ht
      omega
    simp only [bfsLevels_succ, List.mem_append, or_and_right, exists_or, ih _ hnext, List.mem_flatMap]
    constructor
    · rintro (⟨n, hn, h⟩ | ⟨k, ⟨t, ht, hk⟩, h⟩)
      · exact ⟨n, hn, mem_treeNamespaces_iff.mpr (Or.inl h)⟩
      · exact ⟨t, ht, mem_treeNamespaces_iff.mpr (Or.inr ⟨k, hk, h⟩)⟩
    · rintro ⟨t, ht, h⟩
      rcases mem_treeNamespaces_iff.mp h with h | ⟨k, hk, h⟩
      · exact Or.inl ⟨t, ht, h⟩
      · exact Or.inr ⟨k, ⟨t, ht, hk⟩, h⟩

theorem mem_bfsTags_iff {root : Node} {ns : String} :
    (∃ n ∈ bfsTags root, ns ∈ nodeNamespaces n) ↔ ns ∈ treeNamespaces root := by
  rw [bfsTags, mem_bfsLevels_iff _ [root] (by simp)]
  simp

theorem mem_orders_iff {root : Node} {orders : List (List String)} (ho : ordersValid root orders = true)
    {ns : String} : ns ∈ orders.flatten ↔ ns ∈ treeNamespaces root := by
  simp only [ordersValid, Bool.and_eq_true, beq_iff_eq, List.all_eq_true] at ho
  rw [← mem_bfsTags_iff]
  refine mem_flatten_zip orders (bfsTags root) ho.1 fun p hp => ?_
  have := ho.2 p hp
  simp only [isPermOf, Bool.and_eq_true, List.all_eq_true, List.contains_iff_mem] at this
  exact ⟨this.1.2 ns, this.2 ns⟩

end Delb.Ser
