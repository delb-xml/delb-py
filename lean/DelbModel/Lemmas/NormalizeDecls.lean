import DelbModel.Lemmas.Dict
/-!
# `Namespaces.__normalize_declarations` (C13)

An accepted run is described by equations (`Accepted`): the declarations are bound one after the other on top of the
two global bindings (`declDict`, a fold of `dset`, where the last entry for a key wins: `dget_foldl_dset`), then
some of the common namespaces are appended.  `normalizeDecls_nsMapOk` and `normalizeDecls_keeps` read off these.
-/
namespace Delb.Ser

def declKey (d : Option String × String) : String := d.1.getD ""

/-- the dictionary after `__normalize_declarations` has gone through the declarations -/
def declDict (decls : List (Option String × String)) : Dict :=
  decls.foldl (fun r d => dset r (declKey d) d.2) [("xml", Gen.xmlNamespace), ("xmlns", Gen.xmlnsNamespace)]

theorem go_cons_ok {declared : List String} {result : Dict} {p : Option String} {ns : String}
    {rest : List (Option String × String)} {x : List String × Dict}
    (h : normalizeDecls.go declared result ((p, ns) :: rest) = .ok x) :
    (∀ q, p = some q → q ∉ Gen.globalPrefixes) ∧ (ns ≠ Gen.xmlNamespace ∧ ns ≠ Gen.xmlnsNamespace) ∧
      ns ∉ declared ∧ normalizeDecls.go (ns :: declared) (dset result (declKey (p, ns)) ns) rest = .ok x := by
  rw [normalizeDecls.go] at h
  obtain ⟨hglob, h⟩ := of_guard_eq_ok h
  obtain ⟨hns, h⟩ := of_guard_eq_ok h
  obtain ⟨hdecl, h⟩ := of_guard_eq_ok h
  rw [Bool.or_eq_true, beq_iff_eq, beq_iff_eq, not_or] at hns
  rw [List.contains_iff_mem] at hdecl
  refine ⟨?_, hns, hdecl, h⟩
  rintro q rfl hq
  exact hglob (List.contains_iff_mem.mpr hq)

theorem go_eq_ok (l : List (Option String × String)) {declared : List String} {result : Dict}
    {declared' : List String} {result' : Dict}
    (h : normalizeDecls.go declared result l = .ok (declared', result')) :
    declared' = (l.map (·.2)).reverse ++ declared ∧
    result' = l.foldl (fun r d => dset r (declKey d) d.2) result ∧
    (∀ p ns, (some p, ns) ∈ l → p ∉ Gen.globalPrefixes) ∧
    (∀ d ∈ l, d.2 ≠ Gen.xmlNamespace ∧ d.2 ≠ Gen.xmlnsNamespace) ∧
    (declared.Nodup → declared'.Nodup) := by
  induction l generalizing declared result with
  | nil =>
    cases h
    exact ⟨rfl, rfl, by simp, by simp, id⟩
  | cons d rest ih =>
    obtain ⟨p, ns⟩ := d
    obtain ⟨hglob, hns, hdecl, h⟩ := go_cons_ok h
    obtain ⟨rfl, rfl, i3, i4, i5⟩ := ih h
    refine ⟨?_, rfl, ?_, List.forall_mem_cons.mpr ⟨hns, i4⟩, fun hd => i5 (List.nodup_cons.mpr ⟨hdecl, hd⟩)⟩
    · rw [List.map_cons, List.reverse_cons, List.append_assoc]
      rfl
    · intro q ns' hm
      rcases List.mem_cons.mp hm with hm | hm
      · exact hglob q (Prod.mk.inj hm).1.symm
      · exact i3 q ns' hm

def commonStep (declared : List String) (r : Dict) (pn : String × String) : Dict :=
  if declared.contains pn.2 then r
  else if (dget r pn.1).isSome then r else r ++ [(pn.1, pn.2)]

theorem foldl_common_eq (declared : List String) (cs : List (String × String)) (r : Dict) :
    ∃ extra, cs.foldl (commonStep declared) r = r ++ extra ∧
      (∀ e ∈ extra, e ∈ cs ∧ e.2 ∉ declared) ∧ ((dkeys r).Nodup → (dkeys (r ++ extra)).Nodup) := by
  refine List.foldlRecOn (motive := fun r' => ∃ extra, r' = r ++ extra ∧
    (∀ e ∈ extra, e ∈ cs ∧ e.2 ∉ declared) ∧ ((dkeys r).Nodup → (dkeys (r ++ extra)).Nodup)) cs _ ⟨[], by simp⟩ ?_
  rintro _ ⟨extra, rfl, hmem, hnd⟩ ⟨k, v⟩ hkv
  by_cases hc : v ∈ declared ∨ (dget (r ++ extra) k).isSome = true
  · refine ⟨extra, ?_, hmem, hnd⟩
    rcases hc with hc | hc <;> simp [commonStep, hc]
  · obtain ⟨hv, hk⟩ := not_or.mp hc
    rw [Option.not_isSome_iff_eq_none] at hk
    refine ⟨extra ++ [(k, v)], by simp [commonStep, hv, hk], ?_, fun hr => ?_⟩
    · intro e he
      rcases List.mem_append.mp he with he | he
      · exact hmem e he
      · rw [List.mem_singleton.mp he]
        exact ⟨hkv, hv⟩
    · rw [← List.append_assoc, ← dset_of_dget_none v hk]
      exact nodup_dkeys_dset (hnd hr) k v

/-- what an accepted `normalizeDecls` run looks like; `extra` is what is appended from the common namespaces -/
structure Accepted (decls : List (Option String × String)) (extra nsmap : Dict) : Prop where
  notBoth : ¬ (decls.any (fun d => d.1.isNone) = true ∧ decls.any (fun d => d.1 == some "") = true)
  prefixOk : ∀ p ns, (some p, ns) ∈ decls → p ∉ Gen.globalPrefixes
  nsOk : ∀ d ∈ decls, d.2 ≠ Gen.xmlNamespace ∧ d.2 ≠ Gen.xmlnsNamespace
  nsNodup : (decls.map (·.2)).Nodup
  eq : nsmap = declDict decls ++ extra
  common : ∀ e ∈ extra, e ∈ Gen.commonNamespaces ∧ e.2 ∉ decls.map (·.2)
  keysNodup : (dkeys nsmap).Nodup

theorem initDict_nodup :
    (dkeys [("xml", Gen.xmlNamespace), ("xmlns", Gen.xmlnsNamespace)]).Nodup := by
  simp [dkeys, xml_ne_xmlns]

theorem normalizeDecls_ok {decls : List (Option String × String)} {nsmap : Dict}
    (h : normalizeDecls decls = .ok nsmap) : ∃ extra, Accepted decls extra nsmap := by
  rw [normalizeDecls] at h
  obtain ⟨hne, h⟩ := of_guard_eq_ok h
  rw [Bool.and_eq_true] at hne
  cases hgo : normalizeDecls.go [] [("xml", Gen.xmlNamespace), ("xmlns", Gen.xmlnsNamespace)] decls with
  | error e => rw [hgo] at h; cases h
  | ok dr =>
    obtain ⟨declared, result⟩ := dr
    obtain ⟨hd, rfl, g3, g4, g5⟩ := go_eq_ok decls hgo
    rw [List.append_nil] at hd
    obtain ⟨extra, he, hmem, hnd⟩ := foldl_common_eq declared Gen.commonNamespaces (declDict decls)
    rw [hgo] at h
    obtain rfl : declDict decls ++ extra = nsmap := he.symm.trans (Except.ok.inj h)
    exact ⟨extra, {
      notBoth := hne, prefixOk := g3, nsOk := g4, eq := rfl
      nsNodup := (List.reverse_perm _).nodup_iff.mp (hd ▸ g5 List.nodup_nil)
      common := fun e he => ⟨(hmem e he).1, fun hm => (hmem e he).2 (hd ▸ List.mem_reverse.mpr hm)⟩
      keysNodup := hnd (nodup_dkeys_foldl_dset _ _ _ initDict_nodup) }⟩

variable {decls : List (Option String × String)} {extra nsmap : Dict}

theorem Accepted.dget_eq (h : Accepted decls extra nsmap) (k : String) : dget nsmap k =
    (((decls.reverse.find? (fun d => declKey d == k)).map (·.2)).or
      (dget [("xml", Gen.xmlNamespace), ("xmlns", Gen.xmlnsNamespace)] k)).or (dget extra k) := by
  rw [h.eq, dget_append, declDict, dget_foldl_dset declKey]

theorem Accepted.dget_cases (h : Accepted decls extra nsmap) {k v : String} (hk : dget nsmap k = some v) :
    (∃ d ∈ decls, declKey d = k ∧ d.2 = v) ∨ (k = "xml" ∧ v = Gen.xmlNamespace) ∨
      (k = "xmlns" ∧ v = Gen.xmlnsNamespace) ∨ (k, v) ∈ extra := by
  rw [h.dget_eq] at hk
  rcases Option.or_eq_some_iff.mp hk with h1 | ⟨_, h1⟩
  · rcases Option.or_eq_some_iff.mp h1 with h2 | ⟨_, h2⟩
    · obtain ⟨d, hf, hd⟩ := Option.map_eq_some_iff.mp h2
      exact Or.inl ⟨d, List.mem_reverse.mp (List.mem_of_find?_eq_some hf), eq_of_beq (List.find?_some hf :), hd⟩
    · exact Or.inr (Or.imp_right Or.inl (by simpa using mem_of_dget h2))
  · exact Or.inr (Or.inr (Or.inr (mem_of_dget h1)))

theorem Accepted.globals (h : Accepted decls extra nsmap) :
    dget nsmap "xml" = some Gen.xmlNamespace ∧ dget nsmap "xmlns" = some Gen.xmlnsNamespace := by
  have hkey : ∀ g ∈ Gen.globalPrefixes, decls.reverse.find? (fun d => declKey d == g) = none := by
    intro g hg
    refine List.find?_eq_none.mpr ?_
    rintro ⟨_ | p, ns⟩ hd he
    · obtain rfl : "" = g := eq_of_beq he
      exact absurd hg (by decide)
    · obtain rfl : p = g := eq_of_beq he
      exact h.prefixOk p ns (List.mem_reverse.mp hd) hg
  constructor
  · rw [h.dget_eq, hkey _ xml_mem_globalPrefixes]
    simp [dget]
  · rw [h.dget_eq, hkey _ xmlns_mem_globalPrefixes]
    simp [dget]

theorem commonPrefixes_no_colon : ∀ pn ∈ Gen.commonNamespaces, ':' ∉ pn.1.toList := by decide +kernel

theorem normalizeDecls_nsMapOk
    (hcolon : ∀ d ∈ decls, ∀ p, d.1 = some p → ':' ∉ p.toList)
    (h : normalizeDecls decls = .ok nsmap) : NsMapOk nsmap := by
  obtain ⟨extra, hA⟩ := normalizeDecls_ok h
  refine ⟨hA.keysNodup, fun k hk => ?_, hA.globals.1, hA.globals.2⟩
  obtain ⟨v, hv⟩ := Option.isSome_iff_exists.mp (dget_isSome_iff.mpr hk)
  rcases hA.dget_cases hv with ⟨⟨_ | p, ns⟩, hd, rfl, _⟩ | ⟨rfl, _⟩ | ⟨rfl, _⟩ | he
  · exact no_colon_lit.2.2
  · exact hcolon _ hd p rfl
  · exact no_colon_lit.1
  · exact no_colon_lit.2.1
  · exact commonPrefixes_no_colon (k, v) (hA.common _ he).1

theorem normalizeDecls_keeps
    (hnodup : (decls.map (·.1)).Nodup)
    (h : normalizeDecls decls = .ok nsmap) :
    dget nsmap "xml" = some Gen.xmlNamespace ∧
    ∀ p ns, (some p, ns) ∈ decls → dget nsmap p = some ns ∧ lookupPrefix nsmap ns = some p := by
  obtain ⟨extra, hA⟩ := normalizeDecls_ok h
  refine ⟨hA.globals.1, fun p ns hmem => ?_⟩
  -- another declaration stored under the key `p` would be `None` beside `""`: rejected
  have hkey : ∀ d ∈ decls, declKey d = p → d = (some p, ns) := by
    rintro ⟨_ | q, ns'⟩ hd he
    · obtain rfl : "" = p := he
      exact absurd ⟨List.any_eq_true.mpr ⟨_, hd, rfl⟩, List.any_eq_true.mpr ⟨_, hmem, by simp⟩⟩ hA.notBoth
    · obtain rfl : q = p := he
      exact eq_of_nodup_map hnodup hd hmem rfl
  have hfin : dget nsmap p = some ns := by
    rw [hA.dget_eq]
    cases hf : decls.reverse.find? (fun d => declKey d == p) with
    | none => exact absurd (List.find?_eq_none.mp hf _ (List.mem_reverse.mpr hmem)) (by simp [declKey])
    | some d =>
      rw [hkey d (List.mem_reverse.mp (List.mem_of_find?_eq_some hf)) (eq_of_beq (List.find?_some hf :))]
      rfl
  refine ⟨hfin, lookupPrefix_of_unique (mem_of_dget hfin) fun p' hp' => ?_⟩
  rcases hA.dget_cases (dget_of_mem hA.keysNodup hp') with ⟨d, hd, rfl, hns⟩ | ⟨_, h3⟩ | ⟨_, h3⟩ | he
  · rw [eq_of_nodup_map hA.nsNodup hd hmem hns]
    rfl
  · exact absurd h3 (hA.nsOk _ hmem).1
  · exact absurd h3 (hA.nsOk _ hmem).2
  · exact absurd (List.mem_map.mpr ⟨_, hmem, rfl⟩) (hA.common _ he).2

end Delb.Ser
