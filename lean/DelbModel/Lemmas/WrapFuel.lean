import DelbModel.Lemmas.WrapFuel.Basic
import DelbModel.Lemmas.WrapFuel.TotalLeaves
import DelbModel.Lemmas.WrapFuel.Valid
import DelbModel.Lemmas.WrapFuel.Required
import DelbModel.Lemmas.WrapFuel.Leaves
import DelbModel.Lemmas.WrapFuel.Machine
/-!
# Helper lemmas for the layout and totality theorems of Props/C03Wrap.lean

The text-wrapping serializer (`Model/Wrapping.lean`) recurses on an explicit budget; these files show that the
budget `fuelFor root = 8 * size root + 32` is never exhausted, that nothing else goes wrong either, and that every
layout piece written is whitespace — in one walk through the methods.

* `Basic.lean`    — `Tot P x Q` (the run ends in a result with `Q` or in an error with `P`), `NoFuel`, `Bad A B`;
                    `outside root p` / `rest root p`: the nodes after / from `p` on in document order;
                    `_fetch_following` moves on by at least one node (`rest_following`)
* `TotalLeaves.lean` — `OF`, `Sure`: names for the one-sided readings of `Tot`; none of the other files uses them
* `Valid.lean`    — navigation yields existing nodes; namespaces of subtrees; normalized text is not empty;
                    `_wrap_text` yields a line (and a non-empty first line for a text without leading space)
* `Required.lean` — `_required_space(node)` needs at most `3 * rest root p + 1 ≤ 3 * size root + 1`: its recursion
                    follows `_fetch_following` and the children (`requiredSpace_run`)
* `Leaves.lean`   — the non-recursive methods, `_serialize_text` among them
* `Machine.lean`  — `serialize_node(node)` needs at most `6 * size node` (`machine_run`): five calls per level of
                    nesting, one per preceding sibling, one for the second attempt after a line break;
                    `wrapRoot_layout`, `wrapRoot_noFuel`, `wrapRoot_total`, `serializeWrapped_noFuel`
-/
