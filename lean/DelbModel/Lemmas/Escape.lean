import DelbModel.Model.Serialize
import DelbModel.Lemmas.General
/-!
# Escaping and the predefined entities (C02)

`escape T` replaces characters by entities according to a table `T`.  Of the table the lemmas need only `EntityTable`
(the text table and the attribute table are two): then resolving the entities gives the input back
(`unescape_escape`), and a replaced character that no entity contains does not occur in the output (`not_mem_escape`).
-/
namespace Delb.Ser

theorem amp_lit : "&amp;".toList = ['&','a','m','p',';'] := toList_of_eq_ofList rfl
theorem lt_lit : "&lt;".toList = ['&','l','t',';'] := toList_of_eq_ofList rfl
theorem gt_lit : "&gt;".toList = ['&','g','t',';'] := toList_of_eq_ofList rfl
theorem quot_lit : "&quot;".toList = ['&','q','u','o','t',';'] := toList_of_eq_ofList rfl
theorem apos_lit : "&apos;".toList = ['&','a','p','o','s',';'] := toList_of_eq_ofList rfl

theorem entities_eq : entities =
    [(['&','a','m','p',';'], '&'), (['&','l','t',';'], '<'), (['&','g','t',';'], '>'),
     (['&','q','u','o','t',';'], '"'), (['&','a','p','o','s',';'], '\'')] := by
  rw [entities, amp_lit, lt_lit, gt_lit, quot_lit, apos_lit]

theorem entities_chars : ∀ p ∈ entities, p.1 = '&' :: p.1.tail ∧ '&' ∉ p.1.tail := by
  rw [entities_eq]; decide +kernel

theorem entities_safe : ∀ p ∈ entities, ∀ d ∈ ['<', '>', '"'], d ∉ p.1 := by
  rw [entities_eq]; decide +kernel

theorem matchEntity_mem {T : List (List Char × Char)} (hT : ∀ a ∈ T, ∀ b ∈ T, a.1 <+: b.1 → a = b)
    {p : List Char × Char} (hp : p ∈ T) (rest : Str) :
    matchEntity (p.1 ++ rest) T = some (p.2, p.1.length) := by
  induction T with
  | nil => cases hp
  | cons e T ih =>
    rw [matchEntity]
    by_cases h : e.1 <+: p.1 ++ rest
    · have : e = p := by
        rcases List.prefix_or_prefix_of_prefix h (List.prefix_append _ _) with h' | h'
        · exact hT e List.mem_cons_self p hp h'
        · exact (hT p hp e List.mem_cons_self h').symm
      rw [if_pos (List.isPrefixOf_iff_prefix.mpr h), this]
    · rcases List.mem_cons.mp hp with rfl | hp'
      · exact absurd (List.prefix_append _ _) h
      · rw [if_neg (fun h' => h (List.isPrefixOf_iff_prefix.mp h'))]
        exact ih (fun a ha b hb => hT a (List.mem_cons_of_mem _ ha) b (List.mem_cons_of_mem _ hb)) hp'

theorem matchEntity_entity : ∀ p ∈ entities, ∀ rest : Str,
    matchEntity (p.1 ++ rest) entities = some (p.2, p.1.length) :=
  fun _ hp => matchEntity_mem (by rw [entities_eq]; decide +kernel) hp

theorem unescapeAux_entity {p : List Char × Char} (hp : p ∈ entities) (fuel : Nat) (rest : Str) :
    unescapeAux (fuel+1) (p.1 ++ rest) = p.2 :: unescapeAux fuel rest := by
  have hm := matchEntity_entity p hp rest
  obtain ⟨he, _⟩ := entities_chars p hp
  generalize p.1.tail = e at he
  rw [he, List.cons_append] at hm ⊢
  rw [unescapeAux, if_pos (beq_self_eq_true _), hm]
  dsimp only
  rw [← List.cons_append, List.drop_left]

theorem unescapeAux_other (fuel : Nat) (c : Char) (rest : Str) (h : c ≠ '&') :
    unescapeAux (fuel+1) (c :: rest) = c :: unescapeAux fuel rest := by
  simp [unescapeAux, h]

def textTable : List (Char × List Char) := [('&', "&amp;".toList), ('<', "&lt;".toList), ('>', "&gt;".toList)]
def attrTable : List (Char × List Char) :=
  [('"', "&quot;".toList), ('&', "&amp;".toList), ('<', "&lt;".toList), ('>', "&gt;".toList)]

theorem textEscapes_eq : Gen.textEscapes = textTable := rfl

theorem escape_cons (T : List (Char × List Char)) (c : Char) (s : Str) :
    escape T (c :: s) = escapeChar T c ++ escape T s := by simp [escape]

theorem escape_append (T : List (Char × List Char)) (a b : Str) :
    escape T (a ++ b) = escape T a ++ escape T b := by simp [escape]

theorem escapeChar_cons (c d : Char) (r : List Char) (T : List (Char × List Char)) :
    escapeChar ((d, r) :: T) c = if d = c then r else escapeChar T c := by
  by_cases h : d = c
  · simp [escapeChar, h]
  · have : (d == c) = false := by simpa using h
    simp [escapeChar, this, h]

theorem escapeChar_nil (c : Char) : escapeChar [] c = [c] := rfl

theorem escapeChar_textTable (c : Char) :
    escapeChar textTable c =
      if c = '&' then ['&','a','m','p',';'] else if c = '<' then ['&','l','t',';']
      else if c = '>' then ['&','g','t',';'] else [c] := by
  simp only [textTable, escapeChar_cons, escapeChar_nil, amp_lit, lt_lit, gt_lit, eq_comm (b := c)]

theorem escapeChar_attrTable (c : Char) :
    escapeChar attrTable c =
      if c = '"' then ['&','q','u','o','t',';'] else
      if c = '&' then ['&','a','m','p',';'] else if c = '<' then ['&','l','t',';']
      else if c = '>' then ['&','g','t',';'] else [c] := by
  simp only [attrTable, escapeChar_cons, escapeChar_nil, amp_lit, lt_lit, gt_lit, quot_lit, eq_comm (b := c)]

/-- a table that leaves a character other than `&` alone or replaces it, like `&`, by its entity -/
def EntityTable (T : List (Char × List Char)) : Prop :=
  ∀ c, (escapeChar T c = [c] ∧ c ≠ '&') ∨ (escapeChar T c, c) ∈ entities

theorem entityTable_of {T : List (Char × List Char)} (h : ∀ e ∈ T, (e.2, e.1) ∈ entities)
    (hamp : escapeChar T '&' ≠ ['&']) : EntityTable T := by
  intro c
  cases hf : T.find? (fun e => e.1 == c) with
  | none =>
    have hc : escapeChar T c = [c] := by simp only [escapeChar, hf]
    exact Or.inl ⟨hc, fun e => hamp (e ▸ hc)⟩
  | some e =>
    have hc : escapeChar T c = e.2 := by simp only [escapeChar, hf]
    have he : e.1 = c := by simpa using List.find?_some hf
    exact Or.inr (by rw [hc, ← he]; exact h e (List.mem_of_find?_eq_some hf))

theorem entityTable_text : EntityTable textTable :=
  entityTable_of (by rw [entities_eq, textTable, amp_lit, lt_lit, gt_lit]; decide)
    (by rw [escapeChar_textTable]; decide)

theorem entityTable_attr : EntityTable attrTable :=
  entityTable_of (by rw [entities_eq, attrTable, amp_lit, lt_lit, gt_lit, quot_lit]; decide)
    (by rw [escapeChar_attrTable]; decide)

theorem entity_length_pos {p : List Char × Char} (hp : p ∈ entities) : 1 ≤ p.1.length := by
  rw [(entities_chars p hp).1]
  exact Nat.le_add_left 1 _

section
variable {T : List (Char × List Char)} (hT : EntityTable T)
include hT

theorem escapeChar_length (c : Char) : 1 ≤ (escapeChar T c).length := by
  rcases hT c with ⟨h, _⟩ | h
  · rw [h]; simp
  · exact entity_length_pos h

theorem escape_ne_nil {s : Str} (h : s ≠ []) : escape T s ≠ [] := by
  cases s with
  | nil => exact absurd rfl h
  | cons x s =>
    intro he
    rw [escape_cons, List.append_eq_nil_iff] at he
    have := escapeChar_length hT x
    rw [he.1] at this
    cases this

theorem unescapeAux_escape (s : Str) : ∀ fuel, (escape T s).length < fuel →
    unescapeAux fuel (escape T s) = s := by
  induction s with
  | nil => intro fuel h; cases fuel <;> simp [escape, unescapeAux]
  | cons c s ih =>
    intro fuel h
    rw [escape_cons] at h ⊢
    cases fuel with
    | zero => simp at h
    | succ fuel =>
      have hl : (escape T s).length < fuel := by
        have := escapeChar_length hT c
        simp only [List.length_append] at h
        omega
      rcases hT c with ⟨hc, hne⟩ | hc
      · rw [hc, List.singleton_append, unescapeAux_other _ _ _ hne, ih _ hl]
      · rw [unescapeAux_entity hc, ih _ hl]

theorem unescape_escape (s : Str) : unescape (escape T s) = s :=
  unescapeAux_escape hT s _ (Nat.lt_succ_self _)

theorem mem_escape {x : Char} {s : Str} (h : x ∈ escape T s) : x ∈ s ∨ ∃ p ∈ entities, x ∈ p.1 := by
  obtain ⟨c, hc, hx⟩ := List.mem_flatMap.mp h
  rcases hT c with ⟨h', _⟩ | h'
  · rw [h', List.mem_singleton] at hx
    exact Or.inl (hx ▸ hc)
  · exact Or.inr ⟨_, h', hx⟩

theorem not_mem_escape {d : Char} (hd : escapeChar T d ≠ [d]) (he : ∀ p ∈ entities, d ∉ p.1) (s : Str) :
    d ∉ escape T s := by
  intro h
  obtain ⟨c, _, hx⟩ := List.mem_flatMap.mp h
  rcases hT c with ⟨h', _⟩ | h'
  · rw [h', List.mem_singleton] at hx
    subst hx
    exact hd h'
  · exact he _ h' hx

end

theorem unescape_escape_text (s : Str) : unescape (escape textTable s) = s := unescape_escape entityTable_text s
theorem unescape_escape_attr (s : Str) : unescape (escape attrTable s) = s := unescape_escape entityTable_attr s

theorem escape_textTable_safe (s : Str) :
    '<' ∉ escape textTable s ∧ '>' ∉ escape textTable s :=
  ⟨not_mem_escape entityTable_text (by rw [escapeChar_textTable]; decide) (fun p hp => entities_safe p hp _ (by decide)) s,
   not_mem_escape entityTable_text (by rw [escapeChar_textTable]; decide) (fun p hp => entities_safe p hp _ (by decide)) s⟩

theorem escape_attrTable_safe (s : Str) :
    '<' ∉ escape attrTable s ∧ '>' ∉ escape attrTable s ∧ '"' ∉ escape attrTable s :=
  ⟨not_mem_escape entityTable_attr (by rw [escapeChar_attrTable]; decide) (fun p hp => entities_safe p hp _ (by decide)) s,
   not_mem_escape entityTable_attr (by rw [escapeChar_attrTable]; decide) (fun p hp => entities_safe p hp _ (by decide)) s,
   not_mem_escape entityTable_attr (by rw [escapeChar_attrTable]; decide) (fun p hp => entities_safe p hp _ (by decide)) s⟩

theorem escapeText_eq (s : Str) : escapeText s = escape textTable s := rfl
theorem escapeAttr_eq (s : Str) : escapeAttr s = escape attrTable s := rfl

theorem mem_escapeText {x : Char} {s : Str} (h : x ∈ escapeText s) : x ∈ s ∨ ∃ p ∈ entities, x ∈ p.1 :=
  mem_escape entityTable_text h

theorem mem_escapeAttr {x : Char} {s : Str} (h : x ∈ escapeAttr s) : x ∈ s ∨ ∃ p ∈ entities, x ∈ p.1 :=
  mem_escape entityTable_attr h

theorem escapeText_ne_nil {s : Str} (h : s ≠ []) : ∃ c r, escapeText s = c :: r ∧ c ≠ '<' := by
  cases he : escapeText s with
  | nil => exact absurd he (escape_ne_nil entityTable_text h)
  | cons c r =>
    refine ⟨c, r, rfl, fun e => (escape_textTable_safe s).1 ?_⟩
    rw [← escapeText_eq, he, e]
    exact List.mem_cons_self

end Delb.Ser
