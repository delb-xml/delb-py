import DelbModel.Model.Filters
/-! The two inductions behind `Props/C08.lean`, each for a segment that starts with some frames of its own already open. -/
namespace Delb.Filters

theorem run_of_balancedFrom : ∀ (seg : List Act) (pre s : Stack),
    balancedFrom pre.length seg = true → run (pre ++ s) seg = some s
  | [], [], _, _ => rfl
  | [], _ :: _, _, h => nomatch h
  | .push f :: as, pre, s, h => run_of_balancedFrom as (f :: pre) s h
  | .pop :: _, [], _, h => nomatch h
  | .pop :: as, _ :: pre, s, h => run_of_balancedFrom as pre s h
  | .read :: as, pre, s, h => run_of_balancedFrom as pre s h

theorem reads_of_guardedFrom : ∀ (seg : List Act) (pre s₁ s₂ : Stack),
    guardedFrom pre.length seg = true → reads (pre ++ s₁) seg = reads (pre ++ s₂) seg
  | [], _, _, _, _ => rfl
  | .push f :: as, pre, s₁, s₂, h => reads_of_guardedFrom as (f :: pre) s₁ s₂ h
  | .pop :: _, [], _, _, h => nomatch h
  | .pop :: as, _ :: pre, s₁, s₂, h => reads_of_guardedFrom as pre s₁ s₂ h
  | .read :: _, [], _, _, h => nomatch h
  | .read :: as, x :: pre, s₁, s₂, h => congrArg (some x :: ·) (reads_of_guardedFrom as (x :: pre) s₁ s₂ h)

end Delb.Filters
