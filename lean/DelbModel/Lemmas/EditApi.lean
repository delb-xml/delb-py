import DelbModel.Model.EditApi
import DelbModel.Lemmas.Edit
/-!
# The composite API calls (C01)

A composite run on two machines whose steps correspond gives corresponding outcomes (`sim_runApi`); on plain trees
(`machA`) every composite equals its splice specification (`addFollowingAll_spec` … `detachRetain_spec`); what the
mechanism runs in a composite call is a history of primitive steps (`runApi_machC_history`).
-/
namespace Delb.Edit

/-! ## simulation -/

section sim
variable {σ₁ σ₂ ε₁ ε₂ ι : Type}

structure Sim (M₁ : Machine σ₁ ε₁) (M₂ : Machine σ₂ ε₂) (R : σ₁ → σ₂ → Prop) : Prop where
  view : ∀ s₁ s₂, R s₁ s₂ → M₁.view s₁ = M₂.view s₂
  step : ∀ s₁ s₂ p, R s₁ s₂ → ExRel R (M₁.step s₁ p) (M₂.step s₂ p)

def OfferSim (R : σ₁ → σ₂ → Prop) (o₁ : Offer σ₁ ε₁ ι) (o₂ : Offer σ₂ ε₂ ι) : Prop :=
  ∀ s₁ s₂ ctx it, R s₁ s₂ → ExRel (fun x y => R x.1 y.1 ∧ x.2 = y.2) (o₁ s₁ ctx it) (o₂ s₂ ctx it)

theorem offerSource_sim (R : σ₁ → σ₂ → Prop) :
    OfferSim (ε₁ := ε₁) (ε₂ := ε₂) R offerSource offerSource :=
  fun _ _ _ _ h => ⟨h, rfl⟩

variable {M₁ : Machine σ₁ ε₁} {M₂ : Machine σ₂ ε₂} {R : σ₁ → σ₂ → Prop}
  {o₁ : Offer σ₁ ε₁ ι} {o₂ : Offer σ₂ ε₂ ι}

/-- case split on a pair of corresponding outcomes `h : ExRel Q x y`; only the ok/ok case survives -/
local macro "exsplit " h:ident " : " x:term ", " y:term : tactic =>
  `(tactic| (cases h1 : $x <;> cases h2 : $y <;>
      simp only [h1, h2, ExRel_ok_ok, ExRel_err_err, ExRel_ok_err, ExRel_err_ok] at $h:ident ⊢))

theorem OfferSim.bind {β₁ β₂ : Type} {Q : β₁ → β₂ → Prop} {f : σ₁ → Source → Except ε₁ β₁}
    {g : σ₂ → Source → Except ε₂ β₂} (hO : OfferSim R o₁ o₂) {s₁ : σ₁} {s₂ : σ₂} (h : R s₁ s₂) (a : Addr) (it : ι)
    (hfg : ∀ t₁ t₂ src, R t₁ t₂ → ExRel Q (f t₁ src) (g t₂ src)) :
    ExRel Q (match o₁ s₁ a it with | .error e => .error e | .ok (t, src) => f t src)
      (match o₂ s₂ a it with | .error e => .error e | .ok (t, src) => g t src) := by
  have hxy := hO s₁ s₂ a it h
  exsplit hxy : o₁ s₁ a it, o₂ s₂ a it
  rename_i x _ y _
  obtain ⟨hR, hsrc⟩ := hxy
  rw [← hsrc]
  exact hfg x.1 y.1 x.2 hR

theorem sim_addFollowingAll (hS : Sim M₁ M₂ R) (hO : OfferSim R o₁ o₂) :
    ∀ (items : List ι) (s₁ : σ₁) (s₂ : σ₂) (a : Addr), R s₁ s₂ →
      ExRel R (addFollowingAll M₁ o₁ items s₁ a) (addFollowingAll M₂ o₂ items s₂ a) := by
  intro items
  induction items with
  | nil => intro s₁ s₂ a h; exact h
  | cons it rest ih =>
    intro s₁ s₂ a h
    simp only [addFollowingAll]
    refine .ite (fun _ => trivial) fun _ =>
      hO.bind h a it fun t₁ t₂ src ht => (hS.step t₁ t₂ _ ht).bind fun u₁ u₂ hu => ?_
    split
    · exact ih _ _ _ hu
    · exact hu

theorem sim_addPrecedingAll (hS : Sim M₁ M₂ R) (hO : OfferSim R o₁ o₂) :
    ∀ (items : List ι) (s₁ : σ₁) (s₂ : σ₂) (a : Addr), R s₁ s₂ →
      ExRel R (addPrecedingAll M₁ o₁ items s₁ a) (addPrecedingAll M₂ o₂ items s₂ a) := by
  intro items
  induction items with
  | nil => intro s₁ s₂ a h; exact h
  | cons it rest ih =>
    intro s₁ s₂ a h
    simp only [addPrecedingAll]
    exact .ite (fun _ => trivial) fun _ =>
      hO.bind h a it fun t₁ t₂ src ht => (hS.step t₁ t₂ _ ht).bind fun u₁ u₂ hu => ih _ _ _ hu

theorem sim_addFirstOne (hS : Sim M₁ M₂ R) (hO : OfferSim R o₁ o₂) (it : ι) (s₁ : σ₁) (s₂ : σ₂) (a : Addr)
    (h : R s₁ s₂) : ExRel R (addFirstOne M₁ o₁ it s₁ a) (addFirstOne M₂ o₂ it s₂ a) :=
  hO.bind h a it fun t₁ t₂ _ ht => hS.step t₁ t₂ _ ht

theorem sim_appendChildren (hS : Sim M₁ M₂ R) (hO : OfferSim R o₁ o₂) (items : List ι) (s₁ : σ₁) (s₂ : σ₂)
    (a : Addr) (h : R s₁ s₂) :
    ExRel R (appendChildren M₁ o₁ items s₁ a) (appendChildren M₂ o₂ items s₂ a) := by
  cases items with
  | nil => exact h
  | cons it rest =>
    simp only [appendChildren, hS.view s₁ s₂ h]
    exact .ite
      (fun _ => (sim_addFirstOne hS hO it s₁ s₂ a h).bind fun t₁ t₂ ht => sim_addFollowingAll hS hO _ _ _ _ ht)
      fun _ => sim_addFollowingAll hS hO _ _ _ _ h

theorem sim_insertChildren (hS : Sim M₁ M₂ R) (hO : OfferSim R o₁ o₂) (idx : Nat) (items : List ι)
    (s₁ : σ₁) (s₂ : σ₂) (a : Addr) (h : R s₁ s₂) :
    ExRel R (insertChildren M₁ o₁ idx items s₁ a) (insertChildren M₂ o₂ idx items s₂ a) := by
  simp only [insertChildren, hS.view s₁ s₂ h]
  refine .ite (fun _ => trivial) fun _ => ?_
  cases items with
  | nil => trivial
  | cons it rest =>
    refine ExRel.bind ?_ fun t₁ t₂ ht => sim_addFollowingAll hS hO _ _ _ _ ht
    exact .ite
      (fun _ => .ite (fun _ => sim_addPrecedingAll hS hO _ _ _ _ h) fun _ => sim_addFirstOne hS hO _ _ _ _ h)
      fun _ => sim_addFollowingAll hS hO _ _ _ _ h

theorem sim_detachKids (hS : Sim M₁ M₂ R) (a : Addr) :
    ∀ (n : Nat) (s₁ : σ₁) (s₂ : σ₂), R s₁ s₂ → ExRel R (detachKids M₁ a n s₁) (detachKids M₂ a n s₂) := by
  intro n
  induction n with
  | zero => intro s₁ s₂ h; exact h
  | succ k ih => intro s₁ s₂ h; exact (hS.step s₁ s₂ _ h).bind ih

theorem sim_detachRetain (hS : Sim M₁ M₂ R) (s₁ : σ₁) (s₂ : σ₂) (a : Addr) (h : R s₁ s₂) :
    ExRel R (detachRetain M₁ s₁ a) (detachRetain M₂ s₂ a) := by
  simp only [detachRetain, hS.view s₁ s₂ h]
  refine .ite (fun _ => trivial) fun _ =>
    (sim_detachKids hS a _ s₁ s₂ h).bind fun t₁ t₂ ht => (hS.step t₁ t₂ _ ht).bind fun u₁ u₂ hu => ?_
  split
  · exact hu
  · exact .ite (fun _ => hu) fun _ => sim_insertChildren hS (offerSource_sim R) _ _ _ _ _ hu

theorem sim_replaceWith (hS : Sim M₁ M₂ R) (hO : OfferSim R o₁ o₂) (items : List ι) (s₁ : σ₁) (s₂ : σ₂)
    (a : Addr) (h : R s₁ s₂) :
    ExRel R (replaceWith M₁ o₁ items s₁ a) (replaceWith M₂ o₂ items s₂ a) :=
  .ite (fun _ => trivial) fun _ =>
    (sim_addFollowingAll hS hO items s₁ s₂ a h).bind fun t₁ t₂ ht => hS.step t₁ t₂ _ ht

theorem sim_delItem (hS : Sim M₁ M₂ R) (idx : Nat) (s₁ : σ₁) (s₂ : σ₂) (a : Addr) (h : R s₁ s₂) :
    ExRel R (delItem M₁ idx s₁ a) (delItem M₂ idx s₂ a) := by
  simp only [delItem, hS.view s₁ s₂ h]
  exact .ite (fun _ => trivial) fun _ => hS.step _ _ _ h

theorem sim_runApi (hS : Sim M₁ M₂ R) (hO : OfferSim R o₁ o₂) (s₁ : σ₁) (s₂ : σ₂) (c : ApiCall ι)
    (h : R s₁ s₂) : ExRel R (runApi M₁ o₁ s₁ c) (runApi M₂ o₂ s₂ c) := by
  cases c with
  | addFollowing a items => exact sim_addFollowingAll hS hO items s₁ s₂ a h
  | addPreceding a items => exact sim_addPrecedingAll hS hO items s₁ s₂ a h
  | append a items => exact sim_appendChildren hS hO items s₁ s₂ a h
  | insert a idx items => exact sim_insertChildren hS hO idx items s₁ s₂ a h
  | prepend a items => exact sim_insertChildren hS hO 0 items s₁ s₂ a h
  | detachRetain a => exact sim_detachRetain hS s₁ s₂ a h
  | replace a items => exact sim_replaceWith hS hO items s₁ s₂ a h
  | delItem a idx => exact sim_delItem hS idx s₁ s₂ a h

end sim

/-! ## the composites on plain trees

Everything is said of the node `x` at an address, `nodeAtA s ⟨g, p⟩ = some x`, and of `setNodeA`; the tree of
group `g` that holds `x` appears only where a fact about `replaceAtP` is lifted to `setNodeA`. -/

@[simp] theorem machA_step : machA.step = stepA := rfl
@[simp] theorem machA_view (s : StateA) : machA.view s = s := rfl

theorem setKids_setKids (x : PTree) (a b : List PTree) : (x.setKids a).setKids b = x.setKids b := by
  cases x <;> rfl

theorem kids_setKids (x : PTree) (a : List PTree) (h : x.isTag = true) : (x.setKids a).kids = a := by
  cases x <;> first | rfl | cases h

theorem isTag_setKids (x : PTree) (a : List PTree) : (x.setKids a).isTag = x.isTag := by
  cases x <;> rfl

theorem setKids_kids (x : PTree) : x.setKids x.kids = x := by
  cases x <;> rfl

theorem isTag_of_lt {x : PTree} {k : Nat} (h : k < x.kids.length) : x.isTag = true := by
  cases x <;> first | rfl | exact absurd h (Nat.not_lt_zero k)

theorem insertKid_eq (j : Nat) (new x : PTree) (hx : x.isTag = true) (hj : j ≤ x.kids.length) :
    insertKid j new x = .ok (x.setKids (x.kids.take j ++ new :: x.kids.drop j)) := by
  cases x with
  | tag i ns n a ks => simp only [PTree.kids] at hj; simp only [insertKid, if_pos hj, PTree.setKids, PTree.kids]
  | text => cases hx
  | comment => cases hx
  | pi => cases hx

theorem removeKid_eq {k : Nat} {x c : PTree} (hc : x.kids[k]? = some c) :
    removeKid k x = .ok (x.setKids (x.kids.eraseIdx k), c) := by
  cases x with
  | tag i ns n a ks => simp only [PTree.kids] at hc; simp only [removeKid, hc, PTree.setKids, PTree.kids]
  | text => cases hc
  | comment => cases hc
  | pi => cases hc

theorem append_singleton_isEmpty (p : List Nat) (i : Nat) : (p ++ [i]).isEmpty = false := by
  cases p <;> rfl

variable {f f' h : PTree → PTree} {p : List Nat} {t x : PTree}

theorem modifyAtP_eq_replaceAtP (F : PTree → Except EditErr PTree) (f : PTree → PTree)
    (hx : getAtP t p = some x) (hF : F x = .ok (f x)) : modifyAtP F t p = .ok (replaceAtP f t p) := by
  induction nodeAt_of_get hx with
  | nil t => simp only [modifyAtP, replaceAtP, hF]
  | cons hc h' ih => simp only [modifyAtP, replaceAtP, hc, ih h'.get hF]

theorem getAtP_replaceAtP (f : PTree → PTree) (hx : getAtP t p = some x) :
    getAtP (replaceAtP f t p) p = some (f x) := by
  induction nodeAt_of_get hx with
  | nil t => simp only [replaceAtP, getAtP]
  | cons hc h' ih =>
    simp only [replaceAtP, hc, getAtP, List.getElem?_set_self (List.getElem?_eq_some_iff.1 hc).1, ih h'.get]

theorem replaceAtP_replaceAtP (hx : getAtP t p = some x) (hh : f' (f x) = h x) :
    replaceAtP f' (replaceAtP f t p) p = replaceAtP h t p := by
  induction nodeAt_of_get hx with
  | nil t => simp only [replaceAtP, hh]
  | cons hc h' ih =>
    simp only [replaceAtP, hc, List.getElem?_set_self (List.getElem?_eq_some_iff.1 hc).1, List.set_set, ih h'.get hh]

theorem replaceAtP_self (hx : getAtP t p = some x) (hf : f x = x) : replaceAtP f t p = t := by
  induction nodeAt_of_get hx with
  | nil t => simp only [replaceAtP, hf]
  | cons hc h' ih =>
    obtain ⟨hk, rfl⟩ := List.getElem?_eq_some_iff.1 hc
    simp only [replaceAtP, hc, ih h'.get hf, List.set_getElem_self]

theorem replaceAtP_snoc {k : Nat} {c : PTree} (f : PTree → PTree) (hx : getAtP t p = some x)
    (hc : x.kids[k]? = some c) :
    replaceAtP f t (p ++ [k]) = replaceAtP (fun x => x.setKids (x.kids.set k (f c))) t p := by
  induction nodeAt_of_get hx with
  | nil t =>
    cases t with
    | tag i ns n a ks => simp only [PTree.kids] at hc; simp only [List.nil_append, replaceAtP, hc, PTree.setKids, PTree.kids]
    | text => cases hc
    | comment => cases hc
    | pi => cases hc
  | cons hc' h' ih => simp only [List.cons_append, replaceAtP, hc', ih h'.get hc]

section
variable {s : StateA} {gs : List (Option PTree)} {n : Nat} {g : Nat} {a : Addr}

theorem nodeAtA_some (hx : nodeAtA s a = some x) :
    ∃ t, s.groups[a.g]? = some (some t) ∧ getAtP t a.path = some x := by
  simp only [nodeAtA] at hx
  split at hx
  · rename_i t ht; exact ⟨t, ht, hx⟩
  · cases hx

theorem nodeAtA_eq (hg : s.groups[g]? = some (some t)) : nodeAtA s ⟨g, p⟩ = getAtP t p := by
  simp only [nodeAtA, hg]

theorem nodeAtA_congr {s' : StateA} (hg : s'.groups[g]? = s.groups[g]?) : nodeAtA s' ⟨g, p⟩ = nodeAtA s ⟨g, p⟩ := by
  simp only [nodeAtA, hg]

theorem tagAt_iff (s : StateA) (a : Addr) : tagAt s a = true ↔ ∃ x, nodeAtA s a = some x ∧ x.isTag = true := by
  cases hx : nodeAtA s a <;> simp [tagAt, hx]

theorem childAt_iff (s : StateA) (a : Addr) (k : Nat) :
    childAt s a k = true ↔ ∃ x, nodeAtA s a = some x ∧ x.isTag = true ∧ k < x.kids.length := by
  cases hx : nodeAtA s a <;> simp [childAt, hx]

theorem kidsCountA_eq (hx : nodeAtA s a = some x) : kidsCountA s a = x.kids.length := by
  simp only [kidsCountA, hx]

theorem nodeAtA_child (hx : nodeAtA s a = some x) (k : Nat) : nodeAtA s (childAddr a k) = x.kids[k]? := by
  obtain ⟨t, hg, hx⟩ := nodeAtA_some hx
  exact (nodeAtA_eq hg).trans (getAtP_snoc t a.path k x hx)

theorem nodeAtA_lt (hx : nodeAtA ⟨gs, n⟩ ⟨g, p⟩ = some x) : g < gs.length := by
  obtain ⟨t, hg, -⟩ := nodeAtA_some hx
  exact (List.getElem?_eq_some_iff.1 hg).1

@[simp] theorem length_setNodeA (gs : List (Option PTree)) (a : Addr) (f : PTree → PTree) :
    (setNodeA gs a f).length = gs.length := by
  simp only [setNodeA]
  split
  · exact List.length_set
  · rfl

theorem setNodeA_eq (hg : gs[g]? = some (some t)) (f : PTree → PTree) :
    setNodeA gs ⟨g, p⟩ f = gs.set g (some (replaceAtP f t p)) := by
  simp only [setNodeA, hg]

theorem nodeAtA_setNodeA (f : PTree → PTree) (hx : nodeAtA ⟨gs, n⟩ ⟨g, p⟩ = some x) :
    nodeAtA ⟨setNodeA gs ⟨g, p⟩ f, n⟩ ⟨g, p⟩ = some (f x) := by
  obtain ⟨t, hg, hx⟩ := nodeAtA_some hx
  rw [setNodeA_eq hg, nodeAtA_eq (List.getElem?_set_self (List.getElem?_eq_some_iff.1 hg).1)]
  exact getAtP_replaceAtP f hx

theorem setNodeA_setNodeA (hx : nodeAtA ⟨gs, n⟩ ⟨g, p⟩ = some x) (hh : f' (f x) = h x) :
    setNodeA (setNodeA gs ⟨g, p⟩ f) ⟨g, p⟩ f' = setNodeA gs ⟨g, p⟩ h := by
  obtain ⟨t, hg, hx⟩ := nodeAtA_some hx
  rw [setNodeA_eq hg, setNodeA_eq (List.getElem?_set_self (List.getElem?_eq_some_iff.1 hg).1), setNodeA_eq hg,
    List.set_set, replaceAtP_replaceAtP hx hh]

theorem setNodeA_congr (hx : nodeAtA ⟨gs, n⟩ ⟨g, p⟩ = some x) (hf : f x = f' x) :
    setNodeA gs ⟨g, p⟩ f = setNodeA gs ⟨g, p⟩ f' := by
  rw [← setNodeA_setNodeA (f' := id) hx hf]
  exact (setNodeA_setNodeA (f' := id) hx rfl).symm

theorem setNodeA_self (hx : nodeAtA ⟨gs, n⟩ ⟨g, p⟩ = some x) (hf : f x = x) : setNodeA gs ⟨g, p⟩ f = gs := by
  obtain ⟨t, hg, hx⟩ := nodeAtA_some hx
  rw [setNodeA_eq hg, replaceAtP_self hx hf]
  obtain ⟨hlt, hg⟩ := List.getElem?_eq_some_iff.1 hg
  rw [← hg]
  exact List.set_getElem_self hlt

theorem setNodeA_child {k : Nat} {c : PTree} (f : PTree → PTree) (hx : nodeAtA ⟨gs, n⟩ ⟨g, p⟩ = some x)
    (hc : x.kids[k]? = some c) :
    setNodeA gs ⟨g, p ++ [k]⟩ f = setNodeA gs ⟨g, p⟩ (fun x => x.setKids (x.kids.set k (f c))) := by
  obtain ⟨t, hg, hx⟩ := nodeAtA_some hx
  rw [setNodeA_eq hg, setNodeA_eq hg, replaceAtP_snoc f hx hc]

theorem getElem?_setNodeA_ne {i : Nat} (hi : i ≠ g) (f : PTree → PTree) : (setNodeA gs ⟨g, p⟩ f)[i]? = gs[i]? := by
  simp only [setNodeA]
  split
  · exact List.getElem?_set_ne (Ne.symm hi)
  · rfl

theorem setNodeA_append (hx : nodeAtA ⟨gs, n⟩ ⟨g, p⟩ = some x) (f : PTree → PTree) (B : List (Option PTree)) :
    setNodeA (gs ++ B) ⟨g, p⟩ f = setNodeA gs ⟨g, p⟩ f ++ B := by
  obtain ⟨t, hg, -⟩ := nodeAtA_some hx
  have hlt := nodeAtA_lt hx
  rw [setNodeA_eq hg, setNodeA_eq ((List.getElem?_append_left hlt).trans hg), List.set_append_left _ _ hlt]

theorem nodeAtA_append (hx : nodeAtA ⟨gs, n⟩ ⟨g, p⟩ = some x) (B : List (Option PTree)) :
    nodeAtA ⟨gs ++ B, n⟩ ⟨g, p⟩ = some x :=
  (nodeAtA_congr (List.getElem?_append_left (nodeAtA_lt hx))).trans hx

end

theorem getElem?_clearGroups (gs : List (Option PTree)) (T : List Nat) (i : Nat) :
    (clearGroups gs T)[i]? = (gs[i]?).map (fun x => if i ∈ T then none else x) := by
  simp only [clearGroups, List.getElem?_mapIdx]

theorem getElem?_clearGroups_of_not_mem {T : List Nat} {i : Nat} (hi : i ∉ T) (gs : List (Option PTree)) :
    (clearGroups gs T)[i]? = gs[i]? := by
  simp only [getElem?_clearGroups, if_neg hi, Option.map_id']

@[simp] theorem length_clearGroups (gs : List (Option PTree)) (T : List Nat) :
    (clearGroups gs T).length = gs.length := by
  simp only [clearGroups, List.length_mapIdx]

theorem clearGroups_nil (gs : List (Option PTree)) : clearGroups gs [] = gs := by
  apply List.ext_getElem?
  intro i
  simp [getElem?_clearGroups]

theorem clearGroups_singleton (gs : List (Option PTree)) (g : Nat) : clearGroups gs [g] = gs.set g none := by
  apply List.ext_getElem?
  intro i
  simp only [getElem?_clearGroups, List.mem_singleton, List.getElem?_set]
  by_cases h : g = i
  · subst h
    by_cases hl : g < gs.length
    · simp [hl]
    · simp [hl]
  · have : ¬ i = g := fun e => h e.symm
    simp [h, this]

theorem clearGroups_clearGroups (gs : List (Option PTree)) (T T' : List Nat) :
    clearGroups (clearGroups gs T) T' = clearGroups gs (T ++ T') := by
  simp only [clearGroups, List.mapIdx_mapIdx]
  congr 1
  funext i x
  by_cases h : i ∈ T <;> by_cases h' : i ∈ T' <;> simp [h, h']

theorem clearGroups_cons (gs : List (Option PTree)) (g : Nat) (T : List Nat) :
    clearGroups gs (g :: T) = clearGroups (gs.set g none) T := by
  rw [← clearGroups_singleton, clearGroups_clearGroups, List.singleton_append]

section
variable {s : StateA} {gs : List (Option PTree)} {n : Nat} {g : Nat} {T : List Nat}

theorem clearGroups_setNodeA (hg : g ∉ T) (gs : List (Option PTree)) (f : PTree → PTree) :
    clearGroups (setNodeA gs ⟨g, p⟩ f) T = setNodeA (clearGroups gs T) ⟨g, p⟩ f := by
  simp only [setNodeA, getElem?_clearGroups_of_not_mem hg]
  split <;> simp only [clearGroups, List.mapIdx_set, if_neg hg]

theorem nodeAtA_clearGroups (hg : g ∉ T) (hx : nodeAtA ⟨gs, n⟩ ⟨g, p⟩ = some x) :
    nodeAtA ⟨clearGroups gs T, n⟩ ⟨g, p⟩ = some x :=
  (nodeAtA_congr (getElem?_clearGroups_of_not_mem hg gs)).trans hx

end

theorem legalSources_iff (s : StateA) (g : Nat) (srcs : List Source) :
    legalSources s g srcs = true ↔
      (∀ g' ∈ takenGroups srcs, g' ≠ g ∧ ∃ t, s.groups[g']? = some (some t)) ∧ (takenGroups srcs).Nodup := by
  simp only [legalSources, Bool.and_eq_true, List.all_eq_true, bne_iff_ne, ne_eq, decide_eq_true_eq]
  constructor
  · rintro ⟨h1, h2⟩
    refine ⟨fun g' hg' => ⟨(h1 g' hg').1, ?_⟩, h2⟩
    have := (h1 g' hg').2
    split at this
    · rename_i t ht; exact ⟨t, ht⟩
    · cases this
  · rintro ⟨h1, h2⟩
    refine ⟨fun g' hg' => ⟨(h1 g' hg').1, ?_⟩, h2⟩
    obtain ⟨t, ht⟩ := (h1 g' hg').2
    simp [ht]

theorem offeredTrees_congr (gs gs' : List (Option PTree)) :
    ∀ (srcs : List Source) (n : Nat), (∀ g ∈ takenGroups srcs, gs[g]? = gs'[g]?) →
      offeredTrees gs n srcs = offeredTrees gs' n srcs := by
  intro srcs
  induction srcs with
  | nil => intro n _; rfl
  | cons src rest ih =>
    intro n h
    cases src with
    | newText str =>
      simp only [offeredTrees]
      rw [ih (n + 1) (fun g hg => h g (by simpa [takenGroups] using hg))]
    | group g0 =>
      have h0 := h g0 (by simp [takenGroups])
      simp only [offeredTrees, h0]
      rw [ih n (fun g hg => h g (by simp [takenGroups, hg]))]

theorem offeredTrees_cons (gs : List (Option PTree)) (n : Nat) (src : Source) (rest : List Source) :
    offeredTrees gs n (src :: rest) = offeredTrees gs n [src] ++ offeredTrees gs (n + freshCount [src]) rest := by
  cases src with
  | newText str => simp [offeredTrees, freshCount]
  | group g0 =>
    simp only [offeredTrees, freshCount, Nat.add_zero]
    split <;> simp

theorem freshCount_cons (src : Source) (rest : List Source) :
    freshCount (src :: rest) = freshCount [src] + freshCount rest := by
  cases src <;> simp [freshCount, Nat.add_comm]

theorem takenGroups_cons (src : Source) (rest : List Source) :
    takenGroups (src :: rest) = takenGroups [src] ++ takenGroups rest := by
  cases src <;> simp [takenGroups]

section
variable {s : StateA} {g : Nat} {src : Source} {rest srcs : List Source}

theorem not_mem_taken_of_legal (hl : legalSources s g srcs = true) : g ∉ takenGroups srcs :=
  fun h => (((legalSources_iff s g srcs).1 hl).1 g h).1 rfl

theorem legal_head (hl : legalSources s g (src :: rest) = true) : legalSources s g [src] = true := by
  rw [legalSources_iff] at hl ⊢
  rw [takenGroups_cons] at hl
  exact ⟨fun g' hg' => hl.1 g' (List.mem_append_left _ hg'), (List.nodup_append.1 hl.2).1⟩

theorem offeredTrees_single (hl : legalSources s g [src] = true) :
    ∃ new, offeredTrees s.groups s.nextId [src] = [new] := by
  cases src with
  | newText str => exact ⟨_, rfl⟩
  | group g0 =>
    obtain ⟨t, ht⟩ := (((legalSources_iff s g _).1 hl).1 g0 (by simp [takenGroups])).2
    exact ⟨t, by simp [offeredTrees, ht]⟩

theorem takeSourceA_legal {new : PTree}
    (hl : legalSources s g [src] = true) (hnew : offeredTrees s.groups s.nextId [src] = [new]) :
    takeSourceA s g src = .ok ({ groups := clearGroups s.groups (takenGroups [src]),
                                 nextId := s.nextId + freshCount [src] }, new) := by
  cases src with
  | newText str =>
    simp only [offeredTrees, List.cons.injEq, and_true] at hnew
    subst hnew
    simp [takeSourceA, takenGroups, clearGroups_nil, freshCount]
  | group g0 =>
    obtain ⟨hne, t, ht⟩ := ((legalSources_iff s g _).1 hl).1 g0 (by simp [takenGroups])
    simp only [offeredTrees, ht, List.cons.injEq, and_true] at hnew
    subst hnew
    simp [takeSourceA, hne, ht, takenGroups, clearGroups_singleton, freshCount]

end

section
variable {s : StateA} {g : Nat} {src : Source} {rest srcs : List Source} {F F' F1 : List PTree → List PTree → List PTree}

theorem nodeAtA_spliceSpec (hx : nodeAtA s ⟨g, p⟩ = some x) (hg : g ∉ takenGroups srcs)
    (F : List PTree → List PTree → List PTree) :
    nodeAtA (spliceSpec s ⟨g, p⟩ srcs F) ⟨g, p⟩ =
      some (x.setKids (F x.kids (offeredTrees s.groups s.nextId srcs))) :=
  nodeAtA_setNodeA _ (nodeAtA_clearGroups hg hx)

theorem spliceSpec_nil (hx : nodeAtA s ⟨g, p⟩ = some x) (hF : F x.kids [] = x.kids) :
    spliceSpec s ⟨g, p⟩ [] F = s := by
  simp only [spliceSpec, takenGroups, clearGroups_nil, offeredTrees, freshCount, Nat.add_zero]
  rw [setNodeA_self hx (by rw [hF, setKids_kids])]

theorem spliceSpec_congr (hx : nodeAtA s ⟨g, p⟩ = some x) (hg : g ∉ takenGroups srcs)
    (hF : ∀ off, F x.kids off = F' x.kids off) : spliceSpec s ⟨g, p⟩ srcs F = spliceSpec s ⟨g, p⟩ srcs F' := by
  simp only [spliceSpec]
  congr 1
  exact setNodeA_congr (nodeAtA_clearGroups hg hx) (by simp only [hF])

theorem getElem?_spliceSpec_rest (hl : legalSources s g (src :: rest) = true) {g' : Nat}
    (hg' : g' ∈ takenGroups rest) : (spliceSpec s ⟨g, p⟩ [src] F).groups[g']? = s.groups[g']? := by
  rw [legalSources_iff, takenGroups_cons, List.nodup_append] at hl
  exact (getElem?_setNodeA_ne (hl.1 g' (List.mem_append_right _ hg')).1 _).trans
    (getElem?_clearGroups_of_not_mem (fun hin => hl.2.2.2 g' hin g' hg' rfl) _)

theorem legal_tail (F : List PTree → List PTree → List PTree) (hl : legalSources s g (src :: rest) = true) :
    legalSources (spliceSpec s ⟨g, p⟩ [src] F) g rest = true := by
  have hl' := hl
  rw [legalSources_iff] at hl' ⊢
  rw [takenGroups_cons, List.nodup_append] at hl'
  refine ⟨fun g' hg' => ?_, hl'.2.2.1⟩
  rw [getElem?_spliceSpec_rest hl hg']
  exact hl'.1 g' (List.mem_append_right _ hg')

/-- splicing one source and then the others (with the kid-list functions fitting together) is splicing
    them all at once -/
theorem spliceSpec_cons (hx : nodeAtA s ⟨g, p⟩ = some x) (hxt : x.isTag = true)
    (hl : legalSources s g (src :: rest) = true)
    (hF : ∀ new off, F' (F1 x.kids [new]) off = F x.kids (new :: off)) :
    spliceSpec (spliceSpec s ⟨g, p⟩ [src] F1) ⟨g, p⟩ rest F' = spliceSpec s ⟨g, p⟩ (src :: rest) F := by
  obtain ⟨new, hnew⟩ := offeredTrees_single (legal_head hl)
  have hoff := offeredTrees_congr (spliceSpec s ⟨g, p⟩ [src] F1).groups s.groups rest (s.nextId + freshCount [src])
    (fun g' hg' => getElem?_spliceSpec_rest hl hg')
  have hg := not_mem_taken_of_legal hl
  simp only [spliceSpec] at hoff ⊢
  rw [hoff, clearGroups_setNodeA (not_mem_taken_of_legal (legal_tail (p := p) F1 hl)), clearGroups_clearGroups,
    ← takenGroups_cons, freshCount_cons src rest, Nat.add_assoc]
  congr 1
  exact setNodeA_setNodeA (nodeAtA_clearGroups hg hx)
    (by simp only [setKids_setKids, kids_setKids x _ hxt, hnew, hF, offeredTrees_cons, List.singleton_append])

end

section
variable {s : StateA} {g k j : Nat} {src : Source} {rest srcs : List Source}

theorem modifyGroupA_ok {f : PTree → Except EditErr PTree} {t t' : PTree}
    (hg : s.groups[g]? = some (some t)) (ht : t.isTag = true) (hf : f t = .ok t') :
    modifyGroupA s g f = .ok { s with groups := s.groups.set g (some t') } := by
  cases t with
  | tag i ns n a ks => simp only [modifyGroupA, hg, hf]
  | text => cases ht
  | comment => cases ht
  | pi => cases ht

/-- `addFollowing`, `addPreceding` and `addFirst` all take the source and then insert it at some index `j`
    of the child list at `p` -/
theorem take_insert (G : PTree → PTree → Except EditErr PTree) (hx : nodeAtA s ⟨g, p⟩ = some x)
    (hxt : x.isTag = true) (hj : j ≤ x.kids.length) (hl : legalSources s g [src] = true)
    (hG : ∀ new, G new x = insertKid j new x) :
    (match takeSourceA s g src with
      | .error e => Except.error e
      | .ok (s', new) => modifyGroupA s' g (fun t => modifyAtP (G new) t p)) =
      .ok (insertSpec s ⟨g, p⟩ j [src]) := by
  obtain ⟨new, hnew⟩ := offeredTrees_single hl
  obtain ⟨t, hg, hx⟩ := nodeAtA_some hx
  have hg' := (getElem?_clearGroups_of_not_mem (not_mem_taken_of_legal hl) s.groups).trans hg
  rw [takeSourceA_legal hl hnew]
  simp only
  rw [modifyGroupA_ok hg' (getAtP_root_isTag hx hxt)
    (modifyAtP_eq_replaceAtP _ (fun x => x.setKids (x.kids.take j ++ new :: x.kids.drop j)) hx
      (by rw [hG, insertKid_eq j new x hxt hj]))]
  simp only [insertSpec, spliceSpec, setNodeA_eq hg', hnew, List.append_assoc, List.singleton_append]

theorem stepA_addFollowing_spec (hx : nodeAtA s ⟨g, p⟩ = some x) (hk : k < x.kids.length)
    (hl : legalSources s g [src] = true) :
    stepA s (.addFollowing ⟨g, p ++ [k]⟩ src) =
      .ok (insertSpec s ⟨g, p⟩ (k + 1) [src]) := by
  simp only [stepA, splitLast_append]
  exact take_insert _ hx (isTag_of_lt hk) hk hl (by exact fun _ => if_pos hk)

theorem stepA_addPreceding_spec (hx : nodeAtA s ⟨g, p⟩ = some x) (hk : k < x.kids.length)
    (hl : legalSources s g [src] = true) :
    stepA s (.addPreceding ⟨g, p ++ [k]⟩ src) =
      .ok (insertSpec s ⟨g, p⟩ k [src]) := by
  simp only [stepA, splitLast_append]
  exact take_insert _ hx (isTag_of_lt hk) (Nat.le_of_lt hk) hl (by exact fun _ => if_pos hk)

theorem stepA_addFirst_spec (hx : nodeAtA s ⟨g, p⟩ = some x) (hxt : x.isTag = true) (hk : x.kids = [])
    (hl : legalSources s g [src] = true) :
    stepA s (.addFirst ⟨g, p⟩ src) =
      .ok (insertSpec s ⟨g, p⟩ 0 [src]) := by
  simp only [stepA]
  exact take_insert _ hx hxt (Nat.zero_le _) hl (by intro; simp [hxt, hk])

theorem addFollowingAll_cons (hx : nodeAtA s ⟨g, p⟩ = some x) (hk : k < x.kids.length)
    (hl : legalSources s g [src] = true) (rest : List Source) :
    addFollowingAll machA offerSource (src :: rest) s ⟨g, p ++ [k]⟩ =
      addFollowingAll machA offerSource rest
        (insertSpec s ⟨g, p⟩ (k + 1) [src]) ⟨g, p ++ [k + 1]⟩ := by
  simp only [addFollowingAll, append_singleton_isEmpty, offerSource, machA_step, Bool.false_eq_true, if_false,
    stepA_addFollowing_spec hx hk hl, splitLast_append]

theorem addPrecedingAll_cons (hx : nodeAtA s ⟨g, p⟩ = some x) (hk : k < x.kids.length)
    (hl : legalSources s g [src] = true) (rest : List Source) :
    addPrecedingAll machA offerSource (src :: rest) s ⟨g, p ++ [k]⟩ =
      addPrecedingAll machA offerSource rest
        (insertSpec s ⟨g, p⟩ k [src]) ⟨g, p ++ [k]⟩ := by
  simp only [addPrecedingAll, append_singleton_isEmpty, offerSource, machA_step, Bool.false_eq_true, if_false,
    stepA_addPreceding_spec hx hk hl]

theorem addFirstOne_spec (hx : nodeAtA s ⟨g, p⟩ = some x) (hxt : x.isTag = true) (hk : x.kids = [])
    (hl : legalSources s g [src] = true) :
    addFirstOne machA offerSource src s ⟨g, p⟩ =
      .ok (insertSpec s ⟨g, p⟩ 0 [src]) := by
  simp only [addFirstOne, offerSource, machA_step, stepA_addFirst_spec hx hxt hk hl]

theorem stepA_detach_spec {c : PTree} (hx : nodeAtA s ⟨g, p⟩ = some x) (hc : x.kids[k]? = some c) :
    stepA s (.detach ⟨g, p ++ [k]⟩) =
      .ok { s with groups := setNodeA s.groups ⟨g, p⟩ (fun x => x.setKids (x.kids.eraseIdx k)) ++ [some c] } := by
  obtain ⟨t, hg, hx⟩ := nodeAtA_some hx
  have hget : getAtP t (p ++ [k]) = some c := (getAtP_snoc t p k x hx).trans hc
  simp only [stepA, splitLast_append, hg, hget]
  rw [modifyAtP_eq_replaceAtP _ (fun x => x.setKids (x.kids.eraseIdx k)) hx (by rw [removeKid_eq hc]; rfl)]
  simp only [getAtP_root_isTag hx (isTag_of_lt (List.getElem?_eq_some_iff.1 hc).1), if_true, setNodeA_eq hg]

end

section
variable {s : StateA} {g k : Nat} {src : Source} {srcs : List Source}

/-- once `src` went in at index `j`, in whichever way, `add_following_siblings(*rest)` on it puts the others behind it -/
theorem addFollowingAll_after (g : Nat) (p : List Nat) :
    ∀ (rest : List Source) (s : StateA) (j : Nat) (src : Source) (x : PTree),
      nodeAtA s ⟨g, p⟩ = some x → x.isTag = true → j ≤ x.kids.length → legalSources s g (src :: rest) = true →
      addFollowingAll machA offerSource rest
          (insertSpec s ⟨g, p⟩ j [src]) ⟨g, p ++ [j]⟩ =
        .ok (insertSpec s ⟨g, p⟩ j (src :: rest)) := by
  intro rest
  induction rest with
  | nil => intros; rfl
  | cons src' rest ih =>
    intro s j src x hx hxt hj hl
    obtain ⟨new, hnew⟩ := offeredTrees_single (legal_head hl)
    have hx1 : nodeAtA (insertSpec s ⟨g, p⟩ j [src]) ⟨g, p⟩ = _ :=
      nodeAtA_spliceSpec hx (not_mem_taken_of_legal (legal_head hl)) _
    have hl1 : legalSources (insertSpec s ⟨g, p⟩ j [src]) g (src' :: rest) = true := legal_tail _ hl
    have hj1 : j < (x.setKids (x.kids.take j ++ [new] ++ x.kids.drop j)).kids.length := by
      rw [kids_setKids _ _ hxt]; simp [List.length_take]; omega
    rw [hnew] at hx1
    rw [addFollowingAll_cons hx1 hj1 (legal_head hl1), ih _ (j + 1) src' _ hx1 (by rw [isTag_setKids]; exact hxt) hj1 hl1]
    exact congrArg Except.ok (spliceSpec_cons hx hxt hl fun new off => splice_following_list x.kids j hj new off)

theorem addFollowingAll_spec (hx : nodeAtA s ⟨g, p⟩ = some x) (hk : k < x.kids.length)
    (hl : legalSources s g srcs = true) :
    addFollowingAll machA offerSource srcs s ⟨g, p ++ [k]⟩ =
      .ok (addFollowingSpec s ⟨g, p⟩ k srcs) := by
  cases srcs with
  | nil => exact congrArg Except.ok (spliceSpec_nil hx (by simp)).symm
  | cons src rest =>
    rw [addFollowingAll_cons hx hk (legal_head hl)]
    exact addFollowingAll_after g p rest s (k + 1) src x hx (isTag_of_lt hk) hk hl

theorem addPrecedingAll_spec (g : Nat) (p : List Nat) (k : Nat) :
    ∀ (srcs : List Source) (s : StateA) (x : PTree),
      nodeAtA s ⟨g, p⟩ = some x → k < x.kids.length → legalSources s g srcs = true →
      addPrecedingAll machA offerSource srcs s ⟨g, p ++ [k]⟩ =
        .ok (addPrecedingSpec s ⟨g, p⟩ k srcs) := by
  intro srcs
  induction srcs with
  | nil =>
    intro s x hx hk hl
    exact congrArg Except.ok (spliceSpec_nil hx (by simp)).symm
  | cons src rest ih =>
    intro s x hx hk hl
    have hxt := isTag_of_lt hk
    obtain ⟨new, hnew⟩ := offeredTrees_single (legal_head hl)
    have hx1 : nodeAtA (insertSpec s ⟨g, p⟩ k [src]) ⟨g, p⟩ = _ :=
      nodeAtA_spliceSpec hx (not_mem_taken_of_legal (legal_head hl)) _
    rw [hnew] at hx1
    rw [addPrecedingAll_cons hx hk (legal_head hl),
      ih _ _ hx1 (by rw [kids_setKids _ _ hxt]; simp [List.length_take]; omega) (legal_tail _ hl)]
    exact congrArg Except.ok
      (spliceSpec_cons hx hxt hl fun new off => splice_preceding_list x.kids k (Nat.le_of_lt hk) new off)

theorem insertChildren_spec {idx : Nat} (hx : nodeAtA s ⟨g, p⟩ = some x) (hxt : x.isTag = true)
    (hidx : idx ≤ x.kids.length) (hne : srcs.isEmpty = false) (hl : legalSources s g srcs = true) :
    insertChildren machA offerSource idx srcs s ⟨g, p⟩ = .ok (insertSpec s ⟨g, p⟩ idx srcs) := by
  cases srcs with
  | nil => cases hne
  | cons src rest =>
    have hl1 := legal_head hl
    have hafter := addFollowingAll_after g p rest s idx src x hx hxt hidx hl
    simp only [insertChildren, machA_view, kidsCountA_eq hx]
    rw [if_neg (Nat.not_lt.2 hidx)]
    -- whichever way the first node goes in, it ends up at `idx`
    cases idx with
    | zero =>
      rw [if_pos rfl]
      by_cases hpos : x.kids.length > 0
      · rw [if_pos hpos, addPrecedingAll_cons hx hpos hl1]
        exact hafter
      · rw [if_neg hpos, addFirstOne_spec hx hxt (List.eq_nil_of_length_eq_zero (by omega)) hl1]
        exact hafter
    | succ i =>
      rw [if_neg (Nat.succ_ne_zero i), Nat.add_sub_cancel, addFollowingAll_cons hx hidx hl1]
      exact hafter

theorem appendChildren_spec (hx : nodeAtA s ⟨g, p⟩ = some x) (hxt : x.isTag = true)
    (hl : legalSources s g srcs = true) :
    appendChildren machA offerSource srcs s ⟨g, p⟩ = .ok (appendSpec s ⟨g, p⟩ srcs) := by
  cases srcs with
  | nil =>
    simp only [appendChildren, appendSpec]
    rw [spliceSpec_nil hx (by simp)]
  | cons src rest =>
    have hE : appendSpec s ⟨g, p⟩ (src :: rest) = insertSpec s ⟨g, p⟩ x.kids.length (src :: rest) :=
      spliceSpec_congr hx (not_mem_taken_of_legal hl) fun off => by
        rw [List.take_length, List.drop_length, List.append_nil]
    simp only [appendChildren, machA_view, kidsCountA_eq hx, hE]
    split
    · rename_i h0
      rw [addFirstOne_spec hx hxt (List.eq_nil_of_length_eq_zero h0) (legal_head hl), h0]
      exact addFollowingAll_after g p rest s 0 src x hx hxt (Nat.zero_le _) hl
    · rename_i h0
      rw [addFollowingAll_cons hx (by omega) (legal_head hl), Nat.sub_add_cancel (Nat.pos_of_ne_zero h0)]
      exact addFollowingAll_after g p rest s _ src x hx hxt (Nat.le_refl _) hl

end

section
variable {s : StateA} {g k : Nat} {srcs : List Source}

theorem delItem_spec (hx : nodeAtA s ⟨g, p⟩ = some x) (hk : k < x.kids.length) :
    delItem machA k s ⟨g, p⟩ = .ok (delItemSpec s ⟨g, p⟩ k) := by
  have hc := List.getElem?_eq_getElem hk
  simp only [delItem, machA_view, kidsCountA_eq hx, ge_iff_le, if_neg (Nat.not_le.2 hk), machA_step,
    stepA_detach_spec hx hc, delItemSpec, nodeAtA_child hx k, hc, delItemSpecOf]

theorem replaceWith_spec (hx : nodeAtA s ⟨g, p⟩ = some x) (hk : k < x.kids.length)
    (hl : legalSources s g srcs = true) :
    replaceWith machA offerSource srcs s ⟨g, p ++ [k]⟩ = .ok (replaceSpec s ⟨g, p⟩ k srcs) := by
  have hc := List.getElem?_eq_getElem hk
  have hxt := isTag_of_lt hk
  have hg := not_mem_taken_of_legal hl
  have hx1 : nodeAtA (addFollowingSpec s ⟨g, p⟩ k srcs) ⟨g, p⟩ = _ := nodeAtA_spliceSpec hx hg _
  have hc1 : (x.setKids (x.kids.take (k + 1) ++ offeredTrees s.groups s.nextId srcs ++ x.kids.drop (k + 1))).kids[k]? =
      some x.kids[k] := by
    rw [kids_setKids _ _ hxt, List.append_assoc, List.getElem?_append_left (by rw [List.length_take]; omega),
      List.getElem?_take_of_lt (by omega), hc]
  simp only [replaceWith, append_singleton_isEmpty, Bool.false_eq_true, if_false, addFollowingAll_spec hx hk hl,
    machA_step, stepA_detach_spec hx1 hc1, replaceSpec, nodeAtA_child hx k, hc, replaceSpecOf]
  simp only [spliceSpec]
  congr 3
  exact setNodeA_setNodeA (nodeAtA_clearGroups hg hx)
    (by simp only [setKids_setKids, kids_setKids x _ hxt, eraseIdx_splice x.kids k hk])

theorem detachKids_spec (g : Nat) (q : List Nat) :
    ∀ (cs : List PTree) (s : StateA) (N : PTree), nodeAtA s ⟨g, q⟩ = some N → N.kids = cs →
      detachKids machA ⟨g, q⟩ cs.length s =
        .ok { s with groups := setNodeA s.groups ⟨g, q⟩ (fun y => y.setKids []) ++ cs.map some } := by
  intro cs
  induction cs with
  | nil =>
    intro s N hN hcs
    simp only [List.length_nil, detachKids, List.map_nil, List.append_nil]
    rw [setNodeA_self hN (by rw [← hcs, setKids_kids])]
  | cons c cs ih =>
    intro s N hN hcs
    have hNt : N.isTag = true := isTag_of_lt (k := 0) (by rw [hcs]; exact Nat.succ_pos _)
    simp only [List.length_cons, detachKids, machA_step, stepA_detach_spec hN (k := 0) (by rw [hcs]; rfl)]
    rw [ih _ _ (nodeAtA_append (nodeAtA_setNodeA _ hN) _) (by rw [kids_setKids _ _ hNt, hcs]; rfl)]
    simp only
    rw [setNodeA_append (nodeAtA_setNodeA _ hN), setNodeA_setNodeA (h := fun y => y.setKids []) hN (setKids_setKids _ _ _),
      List.append_assoc]
    rfl

end

/-- the sources that `detachRetain` of `Model/EditApi.lean` hands to `insertChildren` (written out there): the groups
    `g0, …, g0 + n - 1` that the child nodes became -/
def retained (g0 n : Nat) : List Source := (List.range n).map (fun i => Source.group (g0 + i))

theorem retained_succ (g0 n : Nat) : retained g0 (n + 1) = .group g0 :: retained (g0 + 1) n := by
  simp only [retained, List.range_succ_eq_map, List.map_cons, List.map_map, Nat.add_zero]
  congr 1
  apply List.map_congr_left
  intro i _
  simp only [Function.comp, Nat.add_assoc, Nat.add_comm 1 i]

theorem takenGroups_retained (g0 n : Nat) : takenGroups (retained g0 n) = (List.range n).map (fun i => g0 + i) := by
  unfold retained
  induction List.range n with
  | nil => rfl
  | cons i l ih => simp only [List.map_cons, takenGroups, ih]

theorem freshCount_retained (g0 n : Nat) : freshCount (retained g0 n) = 0 := by
  unfold retained
  induction List.range n with
  | nil => rfl
  | cons i l ih => simp only [List.map_cons, freshCount, ih]

theorem offeredTrees_retained (cs : List PTree) :
    ∀ (A B : List (Option PTree)) (m : Nat),
      offeredTrees (A ++ cs.map some ++ B) m (retained A.length cs.length) = cs := by
  induction cs with
  | nil => intro A B m; rfl
  | cons c cs ih =>
    intro A B m
    have h0 : (A ++ (c :: cs).map some ++ B)[A.length]? = some (some c) := by
      rw [List.append_assoc, List.getElem?_append_right (Nat.le_refl _)]
      simp
    rw [List.length_cons, retained_succ, offeredTrees, h0]
    simp only
    have := ih (A ++ [some c]) B m
    simp only [List.length_append, List.length_singleton, List.append_assoc, List.nil_append,
      List.cons_append] at this
    simp only [List.map_cons, List.append_assoc, List.cons_append, this]

theorem clearGroups_retained (cs : List PTree) :
    ∀ (A B : List (Option PTree)),
      clearGroups (A ++ cs.map some ++ B) (takenGroups (retained A.length cs.length)) =
        A ++ List.replicate cs.length none ++ B := by
  induction cs with
  | nil => intro A B; exact clearGroups_nil _
  | cons c cs ih =>
    intro A B
    have := ih (A ++ [none]) B
    simp only [List.length_append, List.length_singleton, List.append_assoc, List.nil_append,
      List.cons_append] at this
    rw [List.length_cons, retained_succ, takenGroups, clearGroups_cons]
    simp only [List.map_cons, List.append_assoc, List.cons_append, List.set_append_right _ _ (Nat.le_refl _),
      Nat.sub_self, List.set_cons_zero, this, List.replicate_succ]

section
variable {s : StateA} {g k n : Nat} {A B : List (Option PTree)} {cs : List PTree}

theorem legal_retained (hg : g < A.length) (B : List (Option PTree)) (cs : List PTree) :
    legalSources ⟨A ++ cs.map some ++ B, n⟩ g (retained A.length cs.length) = true := by
  rw [legalSources_iff, takenGroups_retained]
  refine ⟨fun g' hg' => ?_, ?_⟩
  · obtain ⟨i, hi, rfl⟩ := List.mem_map.1 hg'
    rw [List.mem_range] at hi
    refine ⟨by omega, cs[i], ?_⟩
    simp only
    rw [List.append_assoc, List.getElem?_append_right (Nat.le_add_right _ _), Nat.add_sub_cancel_left,
      List.getElem?_append_left (by simpa using hi)]
    simp [hi]
  · rw [List.Nodup, List.pairwise_map]
    exact (List.nodup_range (n := cs.length)).imp (fun h => by omega)

theorem insert_retained (hx : nodeAtA ⟨A, n⟩ ⟨g, p⟩ = some x) (hxt : x.isTag = true) (hk : k ≤ x.kids.length)
    (hne : cs ≠ []) (B : List (Option PTree)) :
    insertChildren machA offerSource k (retained A.length cs.length) ⟨A ++ cs.map some ++ B, n⟩ ⟨g, p⟩ =
      .ok ⟨setNodeA A ⟨g, p⟩ (fun t => t.setKids (t.kids.take k ++ cs ++ t.kids.drop k)) ++
        List.replicate cs.length none ++ B, n⟩ := by
  have hx' : nodeAtA ⟨A ++ cs.map some ++ B, n⟩ ⟨g, p⟩ = some x := by
    rw [List.append_assoc]; exact nodeAtA_append hx _
  have hne' : (retained A.length cs.length).isEmpty = false := by
    cases cs with
    | nil => exact absurd rfl hne
    | cons c cs => rw [List.length_cons, retained_succ]; rfl
  rw [insertChildren_spec hx' hxt hk hne' (legal_retained (nodeAtA_lt hx) B cs)]
  simp only [insertSpec, spliceSpec, offeredTrees_retained, clearGroups_retained, freshCount_retained, Nat.add_zero]
  rw [List.append_assoc, setNodeA_append hx, List.append_assoc]

theorem detachRetain_spec (hx : nodeAtA s ⟨g, p⟩ = some x) (hk : k < x.kids.length) :
    detachRetain machA s ⟨g, p ++ [k]⟩ = .ok (detachRetainSpec s ⟨g, p⟩ k) := by
  have hN := List.getElem?_eq_getElem hk
  rw [detachRetainSpec, nodeAtA_child hx k, hN]
  generalize x.kids[k] = N at hN ⊢
  have hxt := isTag_of_lt hk
  have hNa : nodeAtA s ⟨g, p ++ [k]⟩ = some N := (nodeAtA_child hx k).trans hN
  -- the children come off, then the node
  have h1 := detachKids_spec g (p ++ [k]) N.kids s N hNa rfl
  rw [setNodeA_child _ hx hN] at h1
  have hx1 := nodeAtA_setNodeA (fun x => x.setKids (x.kids.set k (N.setKids []))) hx
  have h2 := stepA_detach_spec (nodeAtA_append hx1 (N.kids.map some)) (c := N.setKids [])
    (by rw [kids_setKids _ _ hxt]; exact List.getElem?_set_self hk)
  simp only at h2
  rw [setNodeA_append hx1,
    setNodeA_setNodeA (h := fun x => x.setKids (x.kids.eraseIdx k)) hx
      (by simp only [setKids_setKids, kids_setKids _ _ hxt, List.eraseIdx_set_eq])] at h2
  simp only [detachRetain, append_singleton_isEmpty, Bool.false_eq_true, if_false, machA_view,
    kidsCountA_eq hNa, h1, machA_step, h2, splitLast_append]
  split
  · rename_i h0
    simp only [detachRetainSpecOf, List.eq_nil_of_length_eq_zero h0, List.map_nil, List.append_nil, List.length_nil,
      List.replicate_zero, List.eraseIdx_eq_take_drop_succ]
  · -- `parent.insert_children(k, *child_nodes)`
    rename_i h0
    have h3 := insert_retained (k := k) (nodeAtA_setNodeA (fun x => x.setKids (x.kids.eraseIdx k)) hx)
      (by rw [isTag_setKids]; exact hxt) (by rw [kids_setKids _ _ hxt, List.length_eraseIdx_of_lt hk]; omega)
      (cs := N.kids) (fun h => h0 (by rw [h]; rfl)) [some (N.setKids [])]
    rw [length_setNodeA] at h3
    refine h3.trans ?_
    simp only [detachRetainSpecOf]
    congr 4
    exact setNodeA_setNodeA hx (by simp only [setKids_setKids, kids_setKids _ _ hxt, eraseIdx_take_drop x.kids k hk])

end

/-! ## the mechanism's log of primitive steps -/

/-- the mechanism, keeping a log of the primitive steps it performed -/
def machT : Machine (StateC × List Prim) EditErr :=
  { step := fun st p => match stepC st.1 p with
      | .ok s' => .ok (s', st.2 ++ [p])
      | .error e => .error e
    view := fun st => absState st.1
    fail := apiErr }

theorem runC_append (ops ops' : List Prim) (s : StateC) :
    runC s (ops ++ ops') = match runC s ops with | .ok s1 => runC s1 ops' | .error e => .error e := by
  induction ops generalizing s with
  | nil => rfl
  | cons q ops ih =>
    simp only [List.cons_append, runC]
    cases stepC s q with
    | ok s' => exact ih s'
    | error e => rfl

theorem sim_machC_machT (s0 : StateC) :
    Sim machC machT (fun c st => st.1 = c ∧ runC s0 st.2 = .ok c) where
  view := by rintro c ⟨c', tr⟩ ⟨rfl, _⟩; rfl
  step := by
    rintro c ⟨c', tr⟩ p ⟨rfl, hrun⟩
    show ExRel _ (stepC c' p) (match stepC c' p with | .ok s' => .ok (s', tr ++ [p]) | .error e => .error e)
    cases hc : stepC c' p with
    | ok s' => exact ⟨rfl, by rw [runC_append, hrun]; simp only [runC, hc]⟩
    | error e => trivial

theorem runApi_machC_history (s s' : StateC) (c : ApiCall Source) (h : runApi machC offerSource s c = .ok s') :
    ∃ ops, runC s ops = .ok s' := by
  obtain ⟨st, _, _, h2⟩ := (sim_runApi (sim_machC_machT s) (offerSource_sim _) s (s, []) c ⟨rfl, rfl⟩).of_ok h
  exact ⟨st.2, h2⟩

end Delb.Edit
