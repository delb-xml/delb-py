import DelbModel.Model.XPath.Eval
import DelbModel.Lemmas.XPathEval.DocOrder
import DelbModel.Lemmas.XPathEval.Axes
import DelbModel.Lemmas.XPathEval.Steps
import DelbModel.Lemmas.XPathEval.Denote
import DelbModel.Lemmas.XPathEval.PredSpec
/-!
# C06: evaluation of XPath expressions

* `XPathEval/DocOrder.lean` — `pathLt` is a strict total order extending the prefix relation;
  `pathsOf` lists exactly the valid addresses and is strictly `pathLt`-sorted
* `XPathEval/Axes.lean` — document order on nodes, and the axis table: every generator is sorted in proximity order
  and lists the nodes that `axisRel` relates to the context node, hence yields `axisDenote` and is duplicate-free;
  which axes reach the root node (`axisRel_doc`)
* `XPathEval/Steps.lean` — what `filterTest`, `filterPred` / `applyPreds` return when they return, Python's `==` on values
  (`pyEq`), the positional predicate, `addNew`, `evalStep`, `evalPaths`, `insertPath` / `sortPaths`
* `XPathEval/Denote.lean` — the mechanism model against the specification `Model/XPath/Spec.lean`
  (node tests, predicates, steps, paths, expressions; when nothing raises)
* `XPathEval/PredSpec.lean` — the mechanism's predicate values (`evalExpr`, `truthy`) against the XPath 1.0
  value semantics `Model/XPath/PredSpec.lean`, outside the situations marked by `PredSafe`
-/
