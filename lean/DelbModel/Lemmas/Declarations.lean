import DelbModel.Lemmas.Dict
/-!
# The namespace declarations on the root (C13, used by C02)

What the members of `declarations m` are; `emitNode` / `emitRoot` on a tag node.
-/
namespace Delb.Ser

theorem insertStr_cases (a b : String) (l : List String) :
    insertStr a (b :: l) = a :: b :: l ∨ insertStr a (b :: l) = b :: insertStr a l := by
  rw [insertStr]; split <;> simp

theorem insertStr_perm (a : String) (l : List String) : (insertStr a l).Perm (a :: l) :=
  insert_perm insertStr (fun _ => rfl) insertStr_cases a l

theorem sortStr_perm (l : List String) : (l.foldr insertStr []).Perm l :=
  foldr_insert_perm insertStr (fun _ => rfl) insertStr_cases l

theorem mem_sortStr {x : String} {l : List String} : x ∈ l.foldr insertStr [] ↔ x ∈ l :=
  (sortStr_perm l).mem_iff

/-- the written name of the declaration of prefix `q`, in a form that needs no computation on strings -/
theorem xmlnsq_toList (q : String) : ("xmlns:" ++ q).toList = "xmlns".toList ++ ':' :: q.toList := by
  rw [String.toList_append, toList_of_eq_ofList (s := "xmlns:") (l := ['x','m','l','n','s',':']) rfl, xmlns_lit]
  rfl

theorem xmlns_prefix_inj {a b : String} (h : ("xmlns:" ++ a).toList = ("xmlns:" ++ b).toList) :
    a = b := by
  rw [String.toList_inj] at h
  exact (String.append_right_inj "xmlns:").mp h

theorem xmlns_prefix_ne (a : String) : ("xmlns:" ++ a).toList ≠ "xmlns".toList := by
  rw [xmlnsq_toList]
  exact fun h => List.cons_ne_nil _ _ (List.append_right_eq_self.mp h)

def dfltDecl (m : Dict) : List (Str × Str) :=
  match m.find? (fun e => e.2 == "") with
  | some (ns, _) => if ns == "" then [] else [("xmlns".toList, ns.toList)]
  | none => []

def prefixedDecls (m : Dict) : Dict :=
  m.filter (fun e => e.2 != "" && !Gen.globalPrefixes.contains (chopColon e.2))

def declOf (prefixed : Dict) (p : String) : Option (Str × Str) :=
  match prefixed.find? (fun e => e.2 == p) with
  | some (ns, _) => some (("xmlns:" ++ chopColon p).toList, ns.toList)
  | none => none

theorem declarations_eq (m : Dict) :
    declarations m = dfltDecl m ++
      (((prefixedDecls m).map (·.2)).foldr insertStr []).filterMap (declOf (prefixedDecls m)) := rfl

theorem mem_prefixedDecls {m : Dict} {ns p : String} :
    (ns, p) ∈ prefixedDecls m ↔ (ns, p) ∈ m ∧ p ≠ "" ∧ chopColon p ∉ Gen.globalPrefixes := by
  simp [prefixedDecls]

theorem mem_dfltDecl {m : Dict} {kv : Str × Str} (h : kv ∈ dfltDecl m) :
    ∃ ns, ns ≠ "" ∧ (ns, "") ∈ m ∧ kv = ("xmlns".toList, ns.toList) := by
  unfold dfltDecl at h
  split at h
  · rename_i ns x hfind
    split at h
    · cases h
    · rename_i hne
      exact ⟨ns, by simpa using hne, find_value_some hfind, List.mem_singleton.mp h⟩
  · cases h

theorem declOf_eq_some {d : Dict} {p : String} {kv : Str × Str} (h : declOf d p = some kv) :
    ∃ ns, (ns, p) ∈ d ∧ kv = (("xmlns:" ++ chopColon p).toList, ns.toList) := by
  unfold declOf at h
  split at h
  · rename_i ns x hfind
    exact ⟨ns, find_value_some hfind, (Option.some.inj h).symm⟩
  · cases h

theorem mem_declarations {m : Dict} {kv : Str × Str} (h : kv ∈ declarations m) :
    (∃ ns, ns ≠ "" ∧ (ns, "") ∈ m ∧ kv = ("xmlns".toList, ns.toList)) ∨
    ∃ ns p, (ns, p) ∈ m ∧ p ≠ "" ∧ chopColon p ∉ Gen.globalPrefixes ∧
      kv = (("xmlns:" ++ chopColon p).toList, ns.toList) := by
  rw [declarations_eq, List.mem_append] at h
  rcases h with h | h
  · exact Or.inl (mem_dfltDecl h)
  · obtain ⟨p, _, hd⟩ := List.mem_filterMap.mp h
    obtain ⟨ns, hmem, hkv⟩ := declOf_eq_some hd
    obtain ⟨h1, h2, h3⟩ := mem_prefixedDecls.mp hmem
    exact Or.inr ⟨ns, p, h1, h2, h3, hkv⟩

theorem declarations_default {m : Dict} (hn : (dkeys m).Nodup)
    (hinj : ∀ a b p, dget m a = some p → dget m b = some p → a = b) {ns : String}
    (h : dget m ns = some "") (hne : ns ≠ "") : ("xmlns".toList, ns.toList) ∈ declarations m := by
  rw [declarations_eq]
  apply List.mem_append_left
  unfold dfltDecl
  split
  · rename_i ns' x hfind
    obtain rfl := hinj _ _ _ (dget_of_mem hn (find_value_some hfind)) h
    rw [if_neg (by simpa using hne)]
    exact List.mem_singleton.mpr rfl
  · rename_i hnone
    exact absurd (mem_of_dget h) (find_value_none hnone ns)

theorem declarations_prefixed {m : Dict} (hn : (dkeys m).Nodup)
    (hinj : ∀ a b p, dget m a = some p → dget m b = some p → a = b) {ns p : String}
    (h : dget m ns = some p) (hp : p ≠ "") (hg : chopColon p ∉ Gen.globalPrefixes) :
    (("xmlns:" ++ chopColon p).toList, ns.toList) ∈ declarations m := by
  rw [declarations_eq]
  apply List.mem_append_right
  have hmem : (ns, p) ∈ prefixedDecls m := mem_prefixedDecls.mpr ⟨mem_of_dget h, hp, hg⟩
  refine List.mem_filterMap.mpr ⟨p, mem_sortStr.mpr (List.mem_map.mpr ⟨_, hmem, rfl⟩), ?_⟩
  unfold declOf
  split
  · rename_i ns' x hfind
    rw [hinj _ _ _ (dget_of_mem hn (mem_prefixedDecls.mp (find_value_some hfind)).1) h]
  · rename_i hnone
    exact absurd hmem (find_value_none hnone ns)

theorem declarations_spec {nsmap m : Dict} {t : Node} (hm : PMapOk nsmap m t) :
    (∀ kv ∈ declarations m, kv.1 ≠ "xmlns:xml".toList ∧ kv.1 ≠ "xmlns:xmlns".toList) ∧
    (∀ ns p, dget m ns = some p → p ≠ "" → chopColon p ∉ Gen.globalPrefixes →
        (("xmlns:" ++ chopColon p).toList, ns.toList) ∈ declarations m) ∧
    (∀ v, ("xmlns".toList, v) ∈ declarations m → v ≠ [] ∧ dget m (String.ofList v) = some "") := by
  refine ⟨?_, fun ns p hd hp hg => declarations_prefixed hm.keysNodup hm.injective hd hp hg, ?_⟩
  · intro kv hkv
    rw [xmlns_decl_lit.1, xmlns_decl_lit.2]
    rcases mem_declarations hkv with ⟨ns, _, _, rfl⟩ | ⟨ns, p, _, _, hg, rfl⟩
    · exact ⟨(xmlns_prefix_ne _).symm, (xmlns_prefix_ne _).symm⟩
    · dsimp only
      constructor
      · intro he
        rw [xmlns_prefix_inj he] at hg
        exact hg xml_mem_globalPrefixes
      · intro he
        rw [xmlns_prefix_inj he] at hg
        exact hg xmlns_mem_globalPrefixes
  · intro v hv
    rcases mem_declarations hv with ⟨ns, hne, hmem, he⟩ | ⟨ns, p, _, _, _, he⟩
    · obtain rfl : v = ns.toList := (Prod.mk.inj he).2
      refine ⟨fun hnil => hne (String.toList_inj.mp (hnil.trans ?_)), ?_⟩
      · exact (toList_of_eq_ofList (s := "") rfl).symm
      · rw [String.ofList_toList]
        exact dget_of_mem hm.keysNodup hmem
    · exact absurd (Prod.mk.inj he).1.symm (xmlns_prefix_ne _)

theorem pfx_ok_iff {m : Dict} {ns p : String} : pfx m ns = .ok p ↔ dget m ns = some p := by
  unfold pfx; cases dget m ns <;> simp

theorem emitNode_tag_inv {m : Dict} {ns name attrs kids toks}
    (h : emitNode m (.tag ns name attrs kids) = .ok toks) :
    ∃ p ad ks, pfx m ns = .ok p ∧ attrsData m (sortAttrs attrs) = .ok ad ∧ emitKids m kids = .ok ks ∧
      toks = if kids.isEmpty then [.stag (p ++ name).toList ad true]
             else .stag (p ++ name).toList ad false :: ks ++ [.etag (p ++ name).toList] := by
  rw [emitNode.eq_1] at h
  split at h
  · rename_i p ad ks hp had hks
    refine ⟨p, ad, ks, hp, had, hks, ?_⟩
    split at h <;> simp_all
  all_goals simp at h

theorem emitRoot_tag_inv {m : Dict} {ns name attrs kids toks}
    (h : emitRoot m (.tag ns name attrs kids) = .ok toks) :
    ∃ p ad ks, pfx m ns = .ok p ∧ attrsData m (sortAttrs attrs) = .ok ad ∧ emitKids m kids = .ok ks ∧
      toks = if kids.isEmpty then [.stag (p ++ name).toList (declarations m ++ ad) true]
             else .stag (p ++ name).toList (declarations m ++ ad) false :: ks ++ [.etag (p ++ name).toList] := by
  rw [emitRoot] at h
  cases h0 : emitNode m (.tag ns name attrs kids) with
  | error e => rw [h0] at h; cases h
  | ok toks0 =>
    obtain ⟨p, ad, ks, hp, had, hks, rfl⟩ := emitNode_tag_inv h0
    rw [h0] at h
    refine ⟨p, ad, ks, hp, had, hks, ?_⟩
    cases kids <;> exact (Except.ok.inj h).symm

end Delb.Ser
