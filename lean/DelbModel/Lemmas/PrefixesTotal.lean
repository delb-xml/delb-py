import DelbModel.Lemmas.Prefixes
import Std.Data.String.ToNat
/-!
# Lemmas for the totality of `_collect_prefixes` (C13)

The only error `collect` can end with besides an assertion (excluded by `collect_spec`) is
`Err.notImplemented`, raised by `newDecl` when `findFree` has tried its `65536` candidates
`ns0`, …, `ns65535` in vain.  A candidate `ns{j}` is rejected when `ns{j}:` is a value of the
prefix map collected so far or `ns{j}` is a key of the caller's mapping.  The candidates are
pairwise different (`Nat.repr` is injective), so by the pigeonhole principle fewer than
`65536` rejections leave a free candidate.

The bound cannot be relaxed: a caller mapping that binds all candidates (`genMap`) makes the search fail, and with the
accepted mapping `boundMap 65536` a tree with two namespaces makes `collect` fail (`collect_exhausted`).
-/
namespace Delb.Ser

theorem natToStr_inj {a b : Nat} (h : natToStr a = natToStr b) : a = b :=
  Nat.repr_injective h

theorem genPrefix_inj {a b : Nat} (h : genPrefix a = genPrefix b) : a = b :=
  natToStr_inj ((String.append_right_inj "ns").mp h)

theorem genPrefix_ne_xml (j : Nat) : genPrefix j ≠ "xml" ∧ genPrefix j ≠ "xmlns" := by
  constructor <;>
  · intro h
    have := congrArg String.toList h
    simp [genPrefix, String.toList_append] at this

def Taken (nsmap m : Dict) (j : Nat) : Prop :=
  (genPrefix j ++ ":") ∈ dvalues m ∨ genPrefix j ∈ dkeys nsmap

theorem taken_iff {nsmap m : Dict} {j : Nat} : Taken nsmap m j ↔
    ¬ ((!(dvalues m).contains (genPrefix j ++ ":") && (dget nsmap (genPrefix j)).isNone) = true) := by
  rw [Taken, ← dget_isSome_iff]
  cases hd : dget nsmap (genPrefix j) <;> simp

theorem findFree_eq_none_iff {nsmap m : Dict} {fuel i : Nat} :
    findFree nsmap m i fuel = none ↔ ∀ j, i ≤ j → j < i + fuel → Taken nsmap m j := by
  rw [findFree_eq, Option.map_eq_none_iff, List.find?_eq_none]
  simp only [List.mem_range'_1, taken_iff, and_imp]

/-- **pigeonhole**: a rejected candidate is — with its colon — a value of `m`, or one of the keys `K` of the caller's
    mapping; more candidates than `|m| + |K|` cannot all be rejected -/
theorem findFree_isSome {nsmap m : Dict} (K : List String)
    (hK : ∀ j, genPrefix j ∈ dkeys nsmap → genPrefix j ∈ K)
    (i fuel : Nat) (h : m.length + K.length < fuel) : (findFree nsmap m i fuel).isSome := by
  cases hf : findFree nsmap m i fuel with
  | some p => rfl
  | none =>
    exfalso
    have hnd : ((List.range' i fuel).map (fun j => genPrefix j ++ ":")).Nodup :=
      List.Pairwise.map _ (fun a b hab he => hab (genPrefix_inj (str_append_colon_inj he))) List.nodup_range'
    have hsub : (List.range' i fuel).map (fun j => genPrefix j ++ ":") ⊆ dvalues m ++ K.map (· ++ ":") := by
      intro v hv
      obtain ⟨j, hj, rfl⟩ := List.mem_map.mp hv
      rw [List.mem_range'_1] at hj
      exact List.mem_append.mpr
        ((findFree_eq_none_iff.mp hf j hj.1 hj.2).imp id fun ht => List.mem_map.mpr ⟨_, hK j ht, rfl⟩)
    have := List.Nodup.length_le_of_subset hnd hsub
    simp only [List.length_map, List.length_range', List.length_append, dvalues] at this
    omega

def userKeys (nsmap : Dict) : List String := ((dkeys nsmap).erase "xml").erase "xmlns"

theorem length_userKeys {nsmap : Dict} (hn : NsMapOk nsmap) :
    (userKeys nsmap).length + 2 = nsmap.length := by
  have hxml : "xml" ∈ dkeys nsmap := dget_isSome_iff.mp (by rw [hn.xml]; rfl)
  have hxmlns : "xmlns" ∈ dkeys nsmap := dget_isSome_iff.mp (by rw [hn.xmlns]; rfl)
  have h2 : "xmlns" ∈ (dkeys nsmap).erase "xml" :=
    (List.Nodup.mem_erase_iff hn.keysNodup).mpr ⟨by decide, hxmlns⟩
  have hlen : (dkeys nsmap).length = nsmap.length := by simp [dkeys]
  have hpos : 0 < (dkeys nsmap).length := List.length_pos_of_mem hxml
  have hpos2 : 0 < ((dkeys nsmap).erase "xml").length := List.length_pos_of_mem h2
  simp only [userKeys]
  rw [List.length_erase_of_mem h2, List.length_erase_of_mem hxml] at *
  omega

theorem genPrefix_mem_userKeys {nsmap : Dict} (hn : NsMapOk nsmap) (j : Nat)
    (h : genPrefix j ∈ dkeys nsmap) : genPrefix j ∈ userKeys nsmap := by
  have h1 : genPrefix j ∈ (dkeys nsmap).erase "xml" :=
    (List.Nodup.mem_erase_iff hn.keysNodup).mpr ⟨(genPrefix_ne_xml j).1, h⟩
  exact (List.Nodup.mem_erase_iff (List.Nodup.erase _ hn.keysNodup)).mpr ⟨(genPrefix_ne_xml j).2, h1⟩

/-- the collected prefixes and the caller's own (non-global) prefixes together are fewer than the `65536` candidates -/
theorem newDecl_total {nsmap m : Dict} (hn : NsMapOk nsmap) (ns : String)
    (h : m.length + nsmap.length < 65538) : ∃ p, newDecl nsmap m ns = .ok (dset m ns p) := by
  have hlen := length_userKeys hn
  have := findFree_isSome (nsmap := nsmap) (m := m) (userKeys nsmap) (genPrefix_mem_userKeys hn) 0 65536
    (by omega)
  simp only [newDecl]
  cases hf : findFree nsmap m 0 65536 with
  | none => rw [hf] at this; cases this
  | some p => exact ⟨p, rfl⟩

/-- a caller mapping that binds the first `n` generated-looking prefixes -/
def genMap (n : Nat) : Dict := (List.range n).map (fun j => (genPrefix j, "urn:x-" ++ natToStr j))

theorem length_genMap (n : Nat) : (genMap n).length = n := by simp [genMap]

theorem genPrefix_mem_genMap {n j : Nat} (h : j < n) : genPrefix j ∈ dkeys (genMap n) := by
  simp only [dkeys, genMap, List.map_map, List.mem_map, List.mem_range]
  exact ⟨j, h, rfl⟩

/-- the bound `|m| + |K| < fuel` of `findFree_isSome` cannot be relaxed (here `|m| = 0`, `|K| = fuel`) -/
theorem findFree_genMap (pre m : Dict) (bound : Nat) :
    findFree (pre ++ genMap bound) m 0 bound = none := by
  rw [findFree_eq_none_iff]
  intro j _ hj
  right
  have := genPrefix_mem_genMap (n := bound) (j := j) (by omega)
  simp only [dkeys, List.map_append, List.mem_append] at this ⊢
  exact Or.inr this

theorem newDecl_exhausted (pre m : Dict) (ns : String) :
    newDecl (pre ++ genMap 65536) m ns = .error .notImplemented := by
  simp only [newDecl, findFree_genMap]

theorem mem_dvalues_genMap {n : Nat} {v : String} (h : v ∈ dvalues (genMap n)) :
    ∃ j, v = "urn:x-" ++ natToStr j := by
  simp only [dvalues, genMap, List.map_map, List.mem_map, List.mem_range] at h
  obtain ⟨j, _, rfl⟩ := h
  exact ⟨j, rfl⟩

/-- the two global bindings followed by `ns0` … `ns{n-1}`: accepted by `Namespaces` -/
def boundMap (n : Nat) : Dict :=
  [("xml", Gen.xmlNamespace), ("xmlns", Gen.xmlnsNamespace)] ++ genMap n

theorem length_boundMap (n : Nat) : (boundMap n).length = n + 2 := by
  simp only [boundMap, List.length_append, length_genMap, List.length_cons, List.length_nil]
  omega

theorem dkeys_boundMap (n : Nat) :
    dkeys (boundMap n) = "xml" :: "xmlns" :: (List.range n).map genPrefix := by
  simp only [boundMap, dkeys, genMap, List.map_map, List.map_cons, List.cons_append, List.nil_append]
  rfl

theorem nsMapOk_boundMap (n : Nat) : NsMapOk (boundMap n) := by
  refine ⟨?_, fun p hp => ?_, rfl, ?_⟩
  · rw [dkeys_boundMap]
    simp only [List.nodup_cons, List.mem_cons, List.mem_map, not_or, not_exists, not_and]
    exact ⟨⟨xml_ne_xmlns, fun j _ => (genPrefix_ne_xml j).1⟩, fun j _ => (genPrefix_ne_xml j).2,
      List.Pairwise.map genPrefix (fun a b hab he => hab (genPrefix_inj he)) List.nodup_range⟩
  · rw [dkeys_boundMap] at hp
    simp only [List.mem_cons, List.mem_map] at hp
    rcases hp with rfl | rfl | ⟨j, _, rfl⟩
    · exact no_colon_lit.1
    · exact no_colon_lit.2.1
    · exact genPrefix_no_colon j
  · simp only [boundMap, List.cons_append, dget_cons, xml_ne_xmlns, if_false, if_true]

theorem not_mem_dvalues_boundMap (n : Nat) (v : String) (hv : v = "urn:r" ∨ v = "urn:a") :
    v ∉ dvalues (boundMap n) := by
  have hglob : Gen.xmlNamespace ≠ "urn:r" ∧ Gen.xmlnsNamespace ≠ "urn:r" ∧
      Gen.xmlNamespace ≠ "urn:a" ∧ Gen.xmlnsNamespace ≠ "urn:a" := by decide +kernel
  intro hm
  simp only [boundMap, dvalues, List.map_append, List.map_cons, List.map_nil, List.mem_append,
    List.mem_cons, List.not_mem_nil, or_false] at hm
  rcases hm with hm | hm
  · rcases hv with rfl | rfl <;> rcases hm with hm | hm
    · exact hglob.1 hm.symm
    · exact hglob.2.1 hm.symm
    · exact hglob.2.2.1 hm.symm
    · exact hglob.2.2.2 hm.symm
  · obtain ⟨j, hj⟩ := mem_dvalues_genMap hm
    have := congrArg String.toList hj
    rcases hv with rfl | rfl <;> simp [String.toList_append] at this

/-- `collect` fails at the first namespace that needs a generated prefix (the root's does not: it becomes the default
    namespace) -/
theorem collect_notImplemented_of {nsmap : Dict} {r a : String}
    (hr : r ∉ dvalues nsmap) (ha : a ∉ dvalues nsmap) (ha0 : a ≠ "") (har : r ≠ a)
    (hnew : ∀ m x, newDecl nsmap m x = .error .notImplemented) :
    collect nsmap (.tag r "r" [⟨a, "k", []⟩] []) [[a, r]] = .error .notImplemented := by
  have hr' : (dvalues nsmap).contains r = false := by simpa using hr
  have hl : lookupPrefix nsmap a = none := lookupPrefix_eq_none_iff.mpr ha
  have hd : dget [(r, "")] a = none := by simp [har, dget]
  have he : (a == "") = false := by simpa using ha0
  simp only [collect, rootNs, hr', collectNodes, collectMany, collectOne, hd, he, hl, hnew,
    Option.isSome_none, Bool.false_eq_true, if_false]

theorem collect_exhausted :
    collect (boundMap 65536) (.tag "urn:r" "r" [⟨"urn:a", "k", []⟩] []) [["urn:a", "urn:r"]]
      = .error .notImplemented :=
  collect_notImplemented_of (not_mem_dvalues_boundMap 65536 "urn:r" (Or.inl rfl))
    (not_mem_dvalues_boundMap 65536 "urn:a" (Or.inr rfl)) (by decide) (by decide)
    (fun m x => newDecl_exhausted _ m x)

theorem collectOne_error {nsmap m : Dict} {ns : String} {e : Err}
    (h : collectOne nsmap m ns = .error e) :
    ns ∉ dkeys m ∧ ((∃ s, e = .assertion s) ∨ ∃ x, newDecl nsmap m x = .error e) := by
  have hnew : ∀ x, dget m ns = none → newDecl nsmap m x = .error e →
      ns ∉ dkeys m ∧ ((∃ s, e = .assertion s) ∨ ∃ x, newDecl nsmap m x = .error e) :=
    fun x hnone hx => ⟨dget_eq_none_iff.mp hnone, Or.inr ⟨x, hx⟩⟩
  revert h
  refine collectOne_cases (C := fun r => r = .error e → _) ?_ ?_ ?_ ?_ ?_ ?_ ?_ ?_
  · intro _ h; cases h
  · intro other _ e' _ hnone _ he h; cases h; exact hnew other hnone he
  · intro _ _ _ _ _ _ _ h; cases h
  · intro _ _ _ h; cases h
  · intro _ hnone _ h; exact hnew ns hnone h
  · intro p _ hnone _ _ _ h; cases h; exact ⟨dget_eq_none_iff.mp hnone, Or.inl ⟨_, rfl⟩⟩
  · intro _ _ _ _ _ _ h; cases h
  · intro _ _ _ _ h; cases h

theorem collectOne_total {nsmap m : Dict} (hn : NsMapOk nsmap) (h : Inv nsmap m) (ns : String)
    (hb : ns ∉ dkeys m → m.length + nsmap.length < 65538) :
    ∃ m', collectOne nsmap m ns = .ok m' := by
  cases hc : collectOne nsmap m ns with
  | ok m' => exact ⟨m', rfl⟩
  | error e =>
    exfalso
    obtain ⟨hnew, he⟩ := collectOne_error hc
    rcases he with ⟨s, rfl⟩ | ⟨x, hx⟩
    · exact (collectOne_spec hn h ns).1 s hc
    · obtain ⟨p, hp⟩ := newDecl_total hn (m := m) x (hb hnew)
      rw [hp] at hx
      cases hx

theorem length_lt_of_missing {m : Dict} {U : List String} (hm : (dkeys m).Nodup)
    (hsub : ∀ k ∈ dkeys m, k ∈ U) {ns : String} (hU : ns ∈ U) (hns : ns ∉ dkeys m) :
    m.length < U.length := by
  have hnd : (ns :: dkeys m).Nodup := List.nodup_cons.mpr ⟨hns, hm⟩
  have hs : (ns :: dkeys m) ⊆ U := by
    intro k hk
    rcases List.mem_cons.mp hk with hk | hk
    · subst hk; exact hU
    · exact hsub k hk
  have := List.Nodup.length_le_of_subset hnd hs
  simp [dkeys] at this
  omega

theorem collectMany_total {nsmap : Dict} (hn : NsMapOk nsmap) (U : List String)
    (hU : U.length + nsmap.length ≤ 65538) (nss : List String) {m : Dict} (h : Inv nsmap m)
    (hsub : ∀ k ∈ dkeys m, k ∈ U) (hnss : ∀ ns ∈ nss, ns ∈ U) : ∃ m', collectMany nsmap m nss = .ok m' := by
  induction nss generalizing m with
  | nil => exact ⟨m, rfl⟩
  | cons ns rest ih =>
    have hnsU : ns ∈ U := hnss ns List.mem_cons_self
    obtain ⟨m1, hm1⟩ := collectOne_total hn h ns (fun hnew => by
      have := length_lt_of_missing h.keysNodup hsub hnsU hnew
      omega)
    obtain ⟨hinv1, hk1⟩ := (collectOne_spec hn h ns).2 m1 hm1
    rw [collectMany, hm1]
    exact ih hinv1 (fun k hk => ((hk1 k).mp hk).elim (· ▸ hnsU) (hsub k))
      (fun x hx => hnss x (List.mem_cons_of_mem _ hx))

theorem mem_treeNamespaces_rootNs {root : Node} (h : root.isTag = true) :
    rootNs root ∈ treeNamespaces root := by
  cases root <;> simp [Node.isTag] at h
  simp [rootNs, treeNamespaces]

theorem collect_total {nsmap : Dict} (hn : NsMapOk nsmap) (root : Node)
    (orders : List (List String)) (ho : ordersValid root orders = true)
    (hsmall : (dedup (treeNamespaces root)).length + nsmap.length ≤ 65538) :
    ∃ m, collect nsmap root orders = .ok m := by
  have hsound : ∀ ns ∈ orders.flatten, ns ∈ treeNamespaces root := fun _ h => (mem_orders_iff ho).mp h
  rw [collect_eq]
  cases hf : orders.flatten with
  | nil => exact ⟨_, rfl⟩
  | cons a l =>
    -- there is something to collect, so the root is a tag node, and its namespace is one of the tree
    have htag : root.isTag = true := treeNamespaces_tag (hsound a (hf ▸ List.mem_cons_self))
    rw [← hf]
    refine collectMany_total hn (dedup (treeNamespaces root)) hsmall orders.flatten
      (Inv.m0 nsmap (rootNs root)) ?_ (fun ns hns => mem_dedup.mpr (hsound ns hns))
    intro k hk
    rw [mem_dedup]
    split at hk
    · cases hk
    · rw [List.mem_singleton.mp hk]
      exact mem_treeNamespaces_rootNs htag

end Delb.Ser
