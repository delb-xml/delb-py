import DelbModel.Model.XPath.Eval
import DelbModel.Lemmas.XPathEval
/-!
# `location_path` (C14)

* the decimal digits of a number determine it and contain no `]`
* `tagPath` is closed under prefixes (only tag nodes have children)
* `tagIdxs`: the per-level tag indexes; both `locationPathAst` and `locationPath` are maps of it,
  and it is injective on tag addresses
* one indexed wildcard step from the node at `pre` selects exactly the child it was made for
-/
namespace Delb.XPath
open Delb.Edit Delb.Nav

theorem toDigits_ten_injective {a b : Nat} (h : Nat.toDigits 10 a = Nat.toDigits 10 b) : a = b := by
  have ha := Nat.ofDigitChars_ten_toDigits (n := a)
  have hb := Nat.ofDigitChars_ten_toDigits (n := b)
  rw [h] at ha
  omega

theorem toList_toString_nat (n : Nat) : (toString n).toList = Nat.toDigits 10 n := by
  rw [Nat.toString_eq_ofList_toDigits, String.toList_ofList]

theorem bracket_not_mem_toDigits (n : Nat) : ']' ∉ Nat.toDigits 10 n := by
  intro h
  have := Nat.isDigit_of_mem_toDigits (by decide) (by decide) h
  revert this
  decide

theorem tagPath_of_getAtP {root : PTree} {p : List Nat} {t : PTree} (h : getAtP root p = some t) :
    tagPath root p = t.isTag := by
  unfold tagPath
  rw [h]
  cases t <;> rfl

theorem tagPath_iff (root : PTree) (p : List Nat) :
    tagPath root p = true ↔ ∃ t, getAtP root p = some t ∧ t.isTag = true := by
  cases h : getAtP root p with
  | none => simp [tagPath, h]
  | some t => simp [tagPath_of_getAtP h]

theorem tagPath_prefix (root : PTree) (p q : List Nat) (h : tagPath root (p ++ q) = true) : tagPath root p = true := by
  rw [tagPath_iff] at h ⊢
  obtain ⟨t, ht, htag⟩ := h
  rw [getAtP_append] at ht
  cases hp : getAtP root p with
  | none => simp [hp] at ht
  | some u => rw [hp] at ht; exact ⟨u, rfl, getAtP_root_isTag ht htag⟩

theorem tagPath_child (root : PTree) (pre : List Nat) (i : Nat) (h : tagPath root (pre ++ [i]) = true) :
    ∃ t, getAtP root pre = some t ∧ ∃ hi : i < t.kids.length, t.kids[i].isTag = true := by
  obtain ⟨c, hc, hctag⟩ := (tagPath_iff _ _).1 h
  cases hp : getAtP root pre with
  | none => simp [getAtP_append, hp] at hc
  | some t =>
    rw [getAtP_snoc _ _ _ _ hp] at hc
    obtain ⟨hi, e⟩ := List.getElem?_eq_some_iff.1 hc
    exact ⟨t, rfl, hi, e ▸ hctag⟩

theorem tagPath_append_single (root : PTree) (pre : List Nat) (t : PTree) (ht : getAtP root pre = some t) (j : Nat)
    (hj : j < t.kids.length) : tagPath root (pre ++ [j]) = t.kids[j].isTag :=
  tagPath_of_getAtP (by rw [getAtP_snoc _ _ _ _ ht, List.getElem?_eq_getElem hj])

/-- the tag indexes `location_path` prints, level by level -/
def tagIdxs (root : PTree) : List Nat → List Nat → List Nat
  | _, [] => []
  | pre, i :: rest => tagIndex root pre i :: tagIdxs root (pre ++ [i]) rest

theorem length_tagIdxs (root : PTree) (pre p : List Nat) : (tagIdxs root pre p).length = p.length := by
  induction p generalizing pre with
  | nil => rfl
  | cons i rest ih => simp [tagIdxs, ih]

/-- the step `*` that every location path starts with -/
def rootStep : Step := { axis := "child", test := .anyName none, preds := [] }

/-- the step `*[position()=k+1]` -/
def idxStep (k : Nat) : Step :=
  { axis := "child", test := .anyName none,
    preds := [.binop "=" (.func "position".toList []) (.num (k + 1))] }

/-- the string `/*[k+1]` -/
def idxPiece (k : Nat) : Str := ("/*[" ++ toString (k + 1) ++ "]").toList

theorem locationPathAst_go_eq (root : PTree) (pre p : List Nat) :
    locationPathAst.go root pre p = (tagIdxs root pre p).map idxStep := by
  induction p generalizing pre with
  | nil => simp [locationPathAst.go, tagIdxs]
  | cons i rest ih => simp [locationPathAst.go, tagIdxs, ih, idxStep]

theorem locationPathAst_eq (root : PTree) (p : List Nat) :
    locationPathAst root p =
      [{ absolute := true, steps := rootStep :: (tagIdxs root [] p).map idxStep }] := by
  simp [locationPathAst, locationPathAst_go_eq, rootStep]

theorem locationPath_go_eq (root : PTree) (pre p : List Nat) :
    locationPath.go (tagIndex root) pre p = (tagIdxs root pre p).map idxPiece := by
  induction p generalizing pre with
  | nil => simp [locationPath.go, tagIdxs]
  | cons i rest ih =>
    simp only [locationPath.go, tagIdxs, ih, List.map_cons, idxPiece]

theorem locationPath_eq (root : PTree) (p : List Nat) :
    locationPath root p = "/*".toList ++ ((tagIdxs root [] p).map idxPiece).flatten := by
  rw [← locationPath_go_eq]
  rfl

theorem idxStep_injective {a b : Nat} (h : idxStep a = idxStep b) : a = b := by
  simp only [idxStep, Step.mk.injEq, List.cons.injEq, Expr.binop.injEq, Expr.num.injEq] at h
  omega

theorem idxPiece_eq (k : Nat) : idxPiece k = '/' :: '*' :: '[' :: (Nat.toDigits 10 (k + 1) ++ ']' :: []) := by
  simp only [idxPiece, String.toList_append, toList_toString_nat]
  rfl

theorem idxPieces_flatten_injective (l₁ l₂ : List Nat)
    (h : (l₁.map idxPiece).flatten = (l₂.map idxPiece).flatten) : l₁ = l₂ := by
  induction l₁ generalizing l₂ with
  | nil =>
    cases l₂ with
    | nil => rfl
    | cons b l₂ => simp [idxPiece_eq] at h
  | cons a l₁ ih =>
    cases l₂ with
    | nil => simp [idxPiece_eq] at h
    | cons b l₂ =>
      simp only [List.map_cons, List.flatten_cons, idxPiece_eq, List.cons_append, List.cons.injEq, true_and,
        List.append_assoc, List.nil_append] at h
      obtain ⟨e1, e2⟩ := append_sep_inj ']' _ _ _ _ (bracket_not_mem_toDigits _) (bracket_not_mem_toDigits _) h
      have := toDigits_ten_injective e1
      rw [ih l₂ e2]
      congr 1
      omega

theorem tagIndex_injective (root : PTree) (pre : List Nat) (i j : Nat) (hi : tagPath root (pre ++ [i]) = true)
    (hj : tagPath root (pre ++ [j]) = true) (h : tagIndex root pre i = tagIndex root pre j) : i = j := by
  obtain ⟨t, ht, hi, hti⟩ := tagPath_child root pre i hi
  obtain ⟨t', ht', hj, htj⟩ := tagPath_child root pre j hj
  cases ht.symm.trans ht'
  simp only [tagIndex, ht] at h
  exact count_take_inj PTree.isTag t.kids hi hj hti htj h

theorem tagIdxs_injective (root : PTree) (pre p q : List Nat) (hp : tagPath root (pre ++ p) = true)
    (hq : tagPath root (pre ++ q) = true) (h : tagIdxs root pre p = tagIdxs root pre q) : p = q := by
  induction p generalizing pre q with
  | nil =>
    cases q with
    | nil => rfl
    | cons j q => simp [tagIdxs] at h
  | cons i p ih =>
    cases q with
    | nil => simp [tagIdxs] at h
    | cons j q =>
      simp only [tagIdxs, List.cons.injEq] at h
      have hp' : tagPath root ((pre ++ [i]) ++ p) = true := by simpa using hp
      have hq' : tagPath root ((pre ++ [j]) ++ q) = true := by simpa using hq
      obtain rfl := tagIndex_injective root pre i j (tagPath_prefix root _ _ hp') (tagPath_prefix root _ _ hq') h.1
      rw [ih (pre ++ [i]) q hp' hq' h.2]

theorem nodeTest_anyName_none (root : PTree) (env : NsEnv) (q : List Nat) :
    nodeTest root env (.anyName none) (.at q) = .ok (tagPath root q) := by
  simp only [nodeTest, checkPrefix, nodeOf, tagPath]
  cases getAtP root q with
  | none => rfl
  | some t => cases t <;> rfl

theorem filterTest_anyName_none {α} (root : PTree) (env : NsEnv) (f : α → List Nat) (l : List α) :
    filterTest root env (.anyName none) (l.map (fun j => XNode.at (f j))) =
      .ok ((l.filter (fun j => tagPath root (f j))).map (fun j => XNode.at (f j))) := by
  induction l with
  | nil => simp [filterTest]
  | cons a l ih =>
    simp only [List.map_cons, filterTest, nodeTest_anyName_none, ih, List.filter_cons]
    cases tagPath root (f a) <;> simp

theorem evalStep_of_evalStepAt (root : PTree) (env : NsEnv) (s : Step) (n m : XNode)
    (h : evalStepAt root env s n = .ok [m]) : evalStep root env s [] [n] = .ok [m] := by
  simp [evalStep, h, addNew]

theorem evalStepAt_idxStep (root : PTree) (env : NsEnv) (pre : List Nat) (i : Nat)
    (h : tagPath root (pre ++ [i]) = true) :
    evalStepAt root env (idxStep (tagIndex root pre i)) (.at pre) = .ok [.at (pre ++ [i])] := by
  obtain ⟨t, ht, hi, hti⟩ := tagPath_child root pre i h
  have hax : axisNodes root "child" (.at pre) =
      .ok ((List.range (kidsCount root pre)).map (fun j => XNode.at (pre ++ [j]))) := rfl
  have hk : kidsCount root pre = t.kids.length := by simp [kidsCount, ht]
  have hQ : ∀ j (hj : j < t.kids.length), tagPath root (pre ++ [j]) = PTree.isTag t.kids[j] :=
    fun j hj => tagPath_append_single root pre t ht j hj
  have hcount : ((List.range i).filter (fun j => tagPath root (pre ++ [j]))).length = tagIndex root pre i := by
    simp only [tagIndex, ht]
    exact count_range_eq PTree.isTag t.kids _ hQ i (by omega)
  have hget := filter_getElem?_count (fun j => tagPath root (pre ++ [j])) (List.range t.kids.length) i
    (by simpa using hi) (by simpa using h)
  rw [List.take_range, Nat.min_eq_left (by omega), hcount] at hget
  simp only [List.getElem_range] at hget
  simp only [evalStepAt, idxStep, hax, hk, filterTest_anyName_none, applyPreds, filterPred_poseq]
  rw [if_pos (Nat.le_add_left 1 _), Nat.add_sub_cancel, List.getElem?_map, hget]
  rfl

theorem evalSteps_tagIdxs (root : PTree) (env : NsEnv) (pre rest : List Nat)
    (h : tagPath root (pre ++ rest) = true) :
    evalSteps root env ((tagIdxs root pre rest).map idxStep) [.at pre] = .ok [.at (pre ++ rest)] := by
  induction rest generalizing pre with
  | nil => simp [tagIdxs, evalSteps]
  | cons i rest ih =>
    have h' : tagPath root ((pre ++ [i]) ++ rest) = true := by simpa using h
    have hstep := evalStep_of_evalStepAt root env _ _ _
      (evalStepAt_idxStep root env pre i (tagPath_prefix root _ _ h'))
    simp only [tagIdxs, List.map_cons, evalSteps, hstep]
    rw [ih (pre ++ [i]) h']
    simp

theorem evalStep_root (root : PTree) (env : NsEnv) (h : tagPath root [] = true) :
    evalStep root env rootStep [] [.doc] = .ok [.at []] := by
  apply evalStep_of_evalStepAt
  have hax : axisNodes root "child" .doc = .ok [.at []] := rfl
  simp [rootStep, evalStepAt, hax, filterTest, nodeTest_anyName_none, h, applyPreds]

end Delb.XPath
