import DelbModel.Lemmas.PrettyTransparent.Strings
/-!
# C03, step 2 (trees): reducing the whitespace of the laid-out tree gives the original tree

`lay_reduce`, for an element in default mode whose child list `kids` is parser-shaped:
* `layKidsM` (the `M`: like `prettyKids` it collects runs of adjacent text nodes) is on `kids` the simpler `layS`;
* `normalize` merges the text nodes `layS` puts side by side, so what is read back is `bkA`: one `chunk`
  (`Strings.lean`) per gap between non-text children;
* reducing `bkA` reduces the non-text children (induction hypothesis) and gives back the text of each gap;
* `normalize` of the original tree only sorts the attributes, which `xml:space` does not notice.
-/
namespace Delb.Pretty
open Delb.Ser Delb.WS

/-! ## `postNl` on parser-shaped child lists -/

@[simp] theorem postNl_nil : postNl [] = true := rfl
theorem postNl_text (s : Str) (rest : List Node) (hs : s ≠ []) : postNl (.text s :: rest) = firstIsSpace s := by
  have : s.isEmpty = false := by simpa [List.isEmpty_iff] using hs
  simp [postNl, List.find?, this, legitAfterNode]
theorem postNl_nontext (k : Node) (rest : List Node) (hk : k.isText = false) : postNl (k :: rest) = false := by
  cases k <;> simp_all [postNl, List.find?, legitAfterNode, Node.isText]

theorem legitBeforeNode_nontext (k : Node) (hk : k.isText = false) : legitBeforeNode (some k) = false := by
  cases k <;> simp_all [legitBeforeNode, Node.isText]

/-- `layKidsM` when no two text nodes are adjacent and none is empty; `g` lays out the non-text children -/
def layS (o : Opts) (level : Nat) (g : Node → Node) (prev : Option Node) : List Node → List Node
  | [] => []
  | .text s :: rest =>
    (flushStrs o level prev.isNone rest.isEmpty [s]).map Node.text ++ layS o level g (some (.text s)) rest
  | k :: rest =>
    (if !o.indent.isEmpty && legitBeforeNode prev then [Node.text (indentN o level)] else [])
      ++ [g k] ++ (if postNl rest then [Node.text ['\n']] else []) ++ layS o level g (some k) rest

@[simp] theorem layS_nil (o level g prev) : layS o level g prev [] = [] := by rw [layS]
theorem layS_text (o level g prev s rest) : layS o level g prev (.text s :: rest) =
    (flushStrs o level prev.isNone rest.isEmpty [s]).map Node.text ++ layS o level g (some (.text s)) rest := by
  rw [layS]
theorem layS_nontext (o level g prev k rest) (hk : k.isText = false) : layS o level g prev (k :: rest) =
    (if !o.indent.isEmpty && legitBeforeNode prev then [Node.text (indentN o level)] else [])
      ++ [g k] ++ (if postNl rest then [Node.text ['\n']] else []) ++ layS o level g (some k) rest :=
  layS.eq_3 o level g prev k rest (Node.ne_text hk)

theorem flushStrs_nil (o level a b) : flushStrs o level a b [] = [] := rfl

theorem layKidsM_merged (o : Opts) (level : Nat) (h : Node → Node) (ht : ∀ s, h (.text s) = .text s) :
    ∀ kids, mergedKids kids = true →
    (∀ prev b, (layKidsM o level prev [] b kids).map h =
      layS o level (fun k => h (layNode o level k)) prev kids) ∧
    (headIsText kids = false → ∀ prev s b, s ≠ [] →
      (layKidsM o level prev [s] b kids).map h =
        (flushStrs o level b kids.isEmpty [s]).map Node.text
          ++ layS o level (fun k => h (layNode o level k)) (some (.text s)) kids) := by
  have htexts : ∀ l : List Str, (l.map Node.text).map h = l.map Node.text := fun l => by
    simp [Function.comp_def, ht]
  apply mergedKids_induct
  · exact ⟨fun prev b => by simp [layKidsM_nil, flushStrs_nil],
      fun _ prev s b _ => by simp [layKidsM_nil, htexts]⟩
  · intro s rest hsne hh _ ih
    have hs : s.isEmpty = false := by simpa [List.isEmpty_iff] using hsne
    refine ⟨fun prev b => ?_, fun h => by simp at h⟩
    rw [layKidsM_text, hs]
    simp only [Bool.false_eq_true, if_false, List.nil_append, List.isEmpty_nil, if_true]
    rw [ih.2 hh prev s _ hsne, layS_text]
  · intro k rest hk _ ih
    refine ⟨fun prev b => ?_, fun _ prev s b hs => ?_⟩
    · rw [layKidsM_node _ _ _ _ _ _ _ hk, layS_nontext _ _ _ _ _ _ hk]
      simp [flushStrs_nil, apply_ite (List.map h), ht, ih.1]
    · rw [layKidsM_node _ _ _ _ _ _ _ hk, layS_nontext _ _ _ _ _ _ hk]
      simp [lastText, apply_ite (List.map h), ht, htexts, ih.1]

/-! ## merging adjacent text nodes -/

def txt (c : Str) : List Node := if c = [] then [] else [.text c]

theorem mk_single (a : Str) : Ser.mergeKids [.text a] = txt a := by
  simp [Ser.mergeKids, txt]

theorem mk_texts (a b : Str) (L : List Node) :
    Ser.mergeKids (.text a :: .text b :: L) = Ser.mergeKids (.text (a ++ b) :: L) := by
  rw [mergeKids_text_cons a, mergeKids_text_cons b, mergeKids_text_cons (a ++ b)]
  rcases hm : Ser.mergeKids L with _ | ⟨x, xs⟩
  · by_cases hb : b = [] <;> simp [hb]
  · cases x <;> by_cases hb : b = [] <;> simp [hb]

theorem mk_text_node (a : Str) (k : Node) (L : List Node) (hk : k.isText = false) :
    Ser.mergeKids (.text a :: k :: L) = txt a ++ k :: Ser.mergeKids L := by
  cases k <;> simp_all [Ser.mergeKids, txt, Node.isText] <;> split <;> simp

theorem mk_node (k : Node) (L : List Node) (hk : k.isText = false) :
    Ser.mergeKids (k :: L) = k :: Ser.mergeKids L :=
  Ser.mergeKids.eq_3 k L (Node.ne_text hk)

theorem mk_optText (a b : Str) (c : Prop) [Decidable c] (L : List Node) :
    Ser.mergeKids (.text a :: ((if c then [Node.text b] else []) ++ L)) =
      Ser.mergeKids (.text (a ++ if c then b else []) :: L) := by
  by_cases h : c <;> simp [h, mk_texts]

theorem mk_optHead (b : Str) (c : Prop) [Decidable c] (L : List Node) :
    Ser.mergeKids ((if c then [Node.text b] else []) ++ L) =
      Ser.mergeKids (.text (if c then b else []) :: L) := by
  by_cases h : c <;> simp [h, mergeKids_text_nil]

theorem mk_texts_map (strs : List Str) : ∀ (a : Str) (L : List Node),
    Ser.mergeKids (.text a :: (strs.map Node.text ++ L)) = Ser.mergeKids (.text (a ++ strs.flatten) :: L) := by
  induction strs with
  | nil => intro a L; simp
  | cons s strs ih =>
    intro a L
    simp only [List.map_cons, List.cons_append, mk_texts, ih, List.flatten_cons, List.append_assoc]

/-! ## the child list that is read back -/

/-- what `Ser.build` returns for the children written by `prettyKids`: `t` is the pending text of
    the current gap, `start`: no non-text child so far -/
def bkA (o : Opts) (level : Nat) (T : Str) (g : Node → Node) (start : Bool) (t : Option Str) :
    List Node → List Node
  | [] => txt (chunk o level T t start true)
  | .text s :: rest => bkA o level T g start (some s) rest
  | k :: rest => txt (chunk o level T t start false) ++ g k :: bkA o level T g false none rest

theorem bkA_nil (o level T g start t) : bkA o level T g start t [] = txt (chunk o level T t start true) := by
  rw [bkA]
theorem bkA_text (o level T g start t s rest) :
    bkA o level T g start t (.text s :: rest) = bkA o level T g start (some s) rest := by
  rw [bkA]
theorem bkA_nontext (o level T g start t k rest) (hk : k.isText = false) :
    bkA o level T g start t (k :: rest) =
      txt (chunk o level T t start false) ++ g k :: bkA o level T g false none rest :=
  bkA.eq_3 o level T g start t k rest (Node.ne_text hk)

/-- the newline pending at the beginning of a gap -/
def lead (start : Bool) (kids : List Node) : Str := if start || postNl kids then ['\n'] else []

theorem layS_merge (o : Opts) (level : Nat) (T : Str) (g : Node → Node)
    (hg : ∀ k, k.isText = false → (g k).isText = false) : ∀ kids, mergedKids kids = true →
    (∀ prev start, prev.isNone = start → legitBeforeNode prev = start →
      Ser.mergeKids (.text (lead start kids) :: (layS o level g prev kids ++ [.text T])) =
        bkA o level T g start none kids) ∧
    (headIsText kids = false → ∀ s start, s ≠ [] →
      Ser.mergeKids (.text (gapA (some s) start kids.isEmpty ++ gapM o level (some s) start kids.isEmpty)
          :: (layS o level g (some (.text s)) kids ++ [.text T])) =
        bkA o level T g start (some s) kids) := by
  apply mergedKids_induct
  · refine ⟨fun prev start _ _ => ?_, fun _ s start _ => ?_⟩
    · simp [mk_texts, mk_single, bkA_nil, chunk, gapA, gapM, gapZ, lead]
    · simp [mk_texts, mk_single, bkA_nil, chunk, gapZ]
  · intro s rest hsne hh _ ih
    refine ⟨fun prev start hp _ => ?_, fun h => by simp at h⟩
    rw [layS_text, List.append_assoc, mk_texts_map, bkA_text, ← ih.2 hh s start hsne, hp]
    simp [lead, postNl_text _ _ hsne, gapA, gapM]
  · intro k rest hk _ ih
    have hgk := hg k hk
    have ih1' := ih.1 (some k) false rfl (legitBeforeNode_nontext k hk)
    refine ⟨fun prev start hp hl => ?_, fun _ s start hs => ?_⟩
    · rw [layS_nontext _ _ _ _ _ _ hk, bkA_nontext _ _ _ _ _ _ _ _ hk, ← ih1']
      simp only [List.append_assoc, List.cons_append, List.nil_append, mk_optText, mk_text_node _ _ _ hgk,
        mk_optHead]
      simp [lead, postNl_nontext _ _ hk, chunk, gapA, gapM, gapZ, hl]
    · rw [layS_nontext _ _ _ _ _ _ hk, bkA_nontext _ _ _ _ _ _ _ _ hk, ← ih1']
      simp only [List.append_assoc, List.cons_append, List.nil_append, mk_optText, mk_text_node _ _ _ hgk,
        mk_optHead]
      simp [lead, chunk, gapZ, legitBeforeNode]


/-! ## reducing the read-back child list -/

theorem reduceList_txt (rc : Str → Bool → Bool → Str) (m : Mode) (c : Str) (L : List Node) :
    reduceList rc m (txt c ++ L) = txt c ++ reduceList rc m L := by
  unfold txt
  split
  · simp
  · rename_i h; simp [reduceList_text, h]

theorem reduceList_bkA (rc : Str → Bool → Bool → Str) (m : Mode) (o : Opts) (level : Nat) (T : Str)
    (g g' : Node → Node) (hg : ∀ k, k.isText = false → (g k).isText = false) :
    ∀ kids start t, (∀ k ∈ kids, k.isText = false → reduceNode rc m (g k) = g' k) →
      reduceList rc m (bkA o level T g start t kids) = bkA o level T g' start t kids := by
  intro kids
  induction kids using kids_induct with
  | nil => intro start t _; simp only [bkA_nil]; simpa using reduceList_txt rc m _ []
  | text s rest ih =>
    intro start t h
    simp only [bkA_text, ih _ _ fun x hx => h x (List.mem_cons_of_mem _ hx)]
  | node k rest hk ih =>
    intro start t h
    rw [bkA_nontext _ _ _ _ _ _ _ _ hk, bkA_nontext _ _ _ _ _ _ _ _ hk, reduceList_txt,
      reduceList_nontext _ _ _ _ (hg k hk), ih _ _ fun x hx => h x (List.mem_cons_of_mem _ hx),
      h k List.mem_cons_self hk]

/-- the text nodes are fixed points of the content reduction (flags as in `reduceTextsF`) -/
def TextsOK (rc : Str → Bool → Bool → Str) : Bool → List Node → Prop
  | _, [] => True
  | f, .text s :: rest => rc s f rest.isEmpty = s ∧ s ≠ [] ∧ TextsOK rc false rest
  | _, _ :: rest => TextsOK rc false rest

theorem textsOK_text (rc f s rest) : TextsOK rc f (.text s :: rest) ↔
    rc s f rest.isEmpty = s ∧ s ≠ [] ∧ TextsOK rc false rest := by simp [TextsOK]
theorem textsOK_nontext (rc f k rest) (hk : k.isText = false) :
    TextsOK rc f (k :: rest) ↔ TextsOK rc false rest :=
  iff_of_eq (TextsOK.eq_3 rc f k rest (Node.ne_text hk))

theorem length_reduceTextsF (rc : Str → Bool → Bool → Str) : ∀ l f, (reduceTextsF rc f l).length ≤ l.length := by
  intro l
  induction l using kids_induct with
  | nil => intro f; simp
  | text s rest ih =>
    intro f
    have := ih false
    rw [reduceTextsF_text]
    split <;> simp <;> omega
  | node k rest hk ih =>
    intro f
    have := ih false
    rw [reduceTextsF_nontext _ _ _ _ hk]
    simp; omega

theorem textsOK_of_fixed (rc : Str → Bool → Bool → Str) : ∀ l f, reduceTextsF rc f l = l → TextsOK rc f l := by
  intro l
  induction l using kids_induct with
  | nil => intro f _; simp [TextsOK]
  | text s rest ih =>
    intro f h
    rw [reduceTextsF_text] at h
    split at h
    · have := length_reduceTextsF rc rest false
      rw [h] at this
      simp at this
      omega
    · rename_i hne
      simp only [List.cons.injEq, Node.text.injEq] at h
      rw [textsOK_text]
      refine ⟨h.1, ?_, ih _ h.2⟩
      rw [h.1] at hne
      simpa [List.isEmpty_iff] using hne
  | node k rest hk ih =>
    intro f h
    rw [reduceTextsF_nontext _ _ _ _ hk] at h
    rw [textsOK_nontext _ _ _ _ hk]
    simp only [List.cons.injEq, true_and] at h
    exact ih _ h

theorem reduceTextsF_txt_drop (rc : Str → Bool → Bool → Str) (f : Bool) (c : Str) (k : Node) (L : List Node)
    (hk : k.isText = false) (hc : rc c f false = []) :
    reduceTextsF rc f (txt c ++ k :: L) = k :: reduceTextsF rc false L := by
  unfold txt
  split
  · simp [reduceTextsF_nontext _ _ _ _ hk]
  · simp [reduceTextsF_text, hc, reduceTextsF_nontext _ _ _ _ hk]

section
variable (o : Opts) (level : Nat) (T : Str) (hI : AllWs (indentN o level)) (hT : AllWs T)
  (g : Node → Node) (hg : ∀ k, k.isText = false → (g k).isText = false) (hgt : ∀ s, g (.text s) = .text s)
include hI hT hg hgt

theorem reduce_bkA : ∀ kids, mergedKids kids = true → ∀ start t,
    (match t with
     | some s => reduceContentSpec pyWs s start kids.isEmpty = s ∧ s ≠ [] ∧ headIsText kids = false ∧
        TextsOK (reduceContentSpec pyWs) false kids
     | none => TextsOK (reduceContentSpec pyWs) start kids ∧ (start = true → kids ≠ [])) →
    reduceTextsF (reduceContentSpec pyWs) start (bkA o level T g start t kids) =
      (match t with | some s => [Node.text s] | none => []) ++ kids.map g := by
  apply mergedKids_induct
  · intro start t h
    rw [bkA_nil]
    cases t with
    | some s =>
      obtain ⟨h1, h2, _, _⟩ := h
      obtain ⟨hr, hne⟩ := chunk_some_reduce o level T hI hT s start true h1 h2
      simp [txt, hne, reduceTextsF_text, hr, h2]
    | none =>
      obtain ⟨_, h2⟩ := h
      have hs : start = false := by cases start <;> simp_all
      subst hs
      have hr := chunk_none_reduce o level T hI hT false true (by simp)
      unfold txt
      split <;> simp [reduceTextsF_text, hr]
  · intro s rest _ hh _ ih start t h
    cases t with
    | some s' => simp at h
    | none =>
      obtain ⟨h1, _⟩ := h
      rw [textsOK_text] at h1
      rw [bkA_text, ih start (some s) ⟨h1.1, h1.2.1, hh, h1.2.2⟩]
      simp [hgt]
  · intro k rest hk _ ih start t h
    rw [bkA_nontext _ _ _ _ _ _ _ _ hk]
    have hgk := hg k hk
    cases t with
    | some s =>
      obtain ⟨h1, h2, _, h4⟩ := h
      rw [textsOK_nontext _ _ _ _ hk] at h4
      simp only [List.isEmpty_cons] at h1
      obtain ⟨hr, hne⟩ := chunk_some_reduce o level T hI hT s start false h1 h2
      have := ih false none ⟨h4, by simp⟩
      simp only [List.nil_append] at this
      simp [txt, hne, reduceTextsF_text, hr, h2, reduceTextsF_nontext _ _ _ _ hgk, this]
    | none =>
      obtain ⟨h1, _⟩ := h
      rw [textsOK_nontext _ _ _ _ hk] at h1
      have hr := chunk_none_reduce o level T hI hT start false (by simp)
      have := ih false none ⟨h1, by simp⟩
      simp only [List.nil_append] at this
      rw [reduceTextsF_txt_drop _ _ _ _ _ hgk hr, this]
      simp
end

/-! ## attribute order does not matter for `xml:space` -/

theorem directive_sortAttrs (attrs : List Attr) (m : Mode)
    (hn : (attrs.map (fun a => (a.ns, a.name))).Nodup) :
    directive (sortAttrs attrs) m = directive attrs m := by
  unfold directive
  rw [find?_eq_of_unique _ attrs (sortAttrs attrs) ?_ (fun a => Ser.mem_sortAttrs)]
  intro x hx y hy hpx hpy
  simp only [Bool.and_eq_true, beq_iff_eq] at hpx hpy
  exact eq_of_nodup_map hn hx hy (by simp [hpx, hpy])

/-! ## `normalize` on parser-shaped trees only sorts the attributes -/

theorem mk_merged : ∀ (l : List Node), mergedKids l = true → Ser.mergeKids l = l := by
  apply mergedKids_induct
  · simp [Ser.mergeKids]
  · intro s rest hsne hh _ ih
    rw [mergeKids_text_cons, ih]
    cases rest with
    | nil => simp [hsne]
    | cons x xs =>
      cases x with
      | text t => simp at hh
      | _ => simp [hsne]
  · intro k rest hk _ ih
    rw [mk_node _ _ hk, ih]

theorem mergedKids_map (h : Node → Node) (ht : ∀ k, (h k).isText = k.isText)
    (hs : ∀ s, h (.text s) = .text s) : ∀ l, mergedKids (l.map h) = mergedKids l := by
  intro l
  induction l using kids_induct with
  | nil => rfl
  | text s rest ih =>
    simp only [List.map_cons, hs, mergedKids_text, ih]
    cases rest with
    | nil => rfl
    | cons x xs => simp [ht]
  | node k rest hk ih =>
    have : (h k).isText = false := by rw [ht, hk]
    simp only [List.map_cons, mergedKids_nontext _ _ this, mergedKids_nontext _ _ hk, ih]

theorem normalize_tag_of_merged (ns name : String) (attrs : List Attr) {kids : List Node}
    (h : mergedKids kids = true) :
    normalize (.tag ns name attrs kids) = .tag ns name (sortAttrs attrs) (kids.map normalize) := by
  rw [normalize, normalizeList_eq_map, mk_merged]
  rw [mergedKids_map _ isText_normalize (fun s => by simp [normalize])]
  exact h

theorem reduceTexts_map (rc : Str → Bool → Bool → Str) (h : Node → Node) (ht : ∀ k, (h k).isText = k.isText)
    (hs : ∀ s, h (.text s) = .text s) : ∀ l n i, reduceTexts rc n i (l.map h) = (reduceTexts rc n i l).map h := by
  intro l
  induction l using kids_induct with
  | nil => intro n i; simp
  | text s rest ih =>
    intro n i
    simp only [List.map_cons, hs, reduceTexts_text, ih]
    split <;> simp [hs]
  | node k rest hk ih =>
    intro n i
    have : (h k).isText = false := by rw [ht, hk]
    simp only [List.map_cons, reduceTexts_nontext _ _ _ _ _ this, reduceTexts_nontext _ _ _ _ _ hk, ih]

theorem reduce_normalize (rc : Str → Bool → Bool → Str) :
    (∀ t, Serializable t → merged t = true → ∀ m,
      reduceNode rc m (normalize t) = normalize (reduceNode rc m t)) ∧
    (∀ l, SerializableList l → mergedAll l = true → ∀ m,
      reduceList rc m (l.map normalize) = (reduceList rc m l).map normalize) := by
  apply Pretty.node_induct
  · intro ns name attrs kids ih hp hm m
    obtain ⟨-, -, -, hn, hk⟩ := hp.tag
    have hm' := (merged_reduce_all rc).1 _ m hm
    rw [reduceNode_tag] at hm'
    simp only [merged_tag, Bool.and_eq_true] at hm hm'
    rw [normalize_tag_of_merged _ _ _ hm.1, reduceNode_tag, reduceNode_tag, normalize_tag_of_merged _ _ _ hm'.1,
      directive_sortAttrs _ _ hn, ih hk hm.2]
    congr 1
    cases directive attrs m with
    | preserve => rfl
    | default =>
      simp only [finishKids_default, List.length_map]
      exact reduceTexts_map rc _ isText_normalize (fun s => by simp [normalize]) _ _ _
  · intro s _ _ m; simp [normalize]
  · intro s _ _ m; simp [normalize]
  · intro t s _ _ m; simp [normalize]
  · intro _ _ m; simp
  · intro k ks ihk ihks hp hm m
    obtain ⟨hp1, hp2⟩ := hp.cons
    simp only [mergedAll_cons, Bool.and_eq_true] at hm
    rcases k.text_or_not with ⟨s, rfl⟩ | hk
    · simp only [List.map_cons, normalize, reduceList_text, ihks hp2 hm.2]
      split <;> simp [normalize]
    · rw [List.map_cons, reduceList_nontext _ _ _ _ (by rw [isText_normalize, hk]),
        reduceList_nontext _ _ _ _ hk, ihk hp1 hm.1, ihks hp2 hm.2, List.map_cons]

theorem reduce_normalize_fixed (rc : Str → Bool → Bool → Str) (t : Node) (hp : Serializable t)
    (hm : merged t = true) (m : Mode) (hr : reduceNode rc m t = t) : reduceNode rc m (normalize t) = normalize t := by
  rw [(reduce_normalize rc).1 t hp hm, hr]

theorem mk_append_nilText : ∀ L : List Node, Ser.mergeKids (L ++ [.text []]) = Ser.mergeKids L := by
  intro L
  induction L using kids_induct with
  | nil => simp [mk_single, txt, Ser.mergeKids]
  | text s L ih => rw [List.cons_append, mergeKids_text_cons, mergeKids_text_cons, ih]
  | node k L hk ih => rw [List.cons_append, mk_node _ _ hk, mk_node _ _ hk, ih]

theorem mk_tail (c : Prop) [Decidable c] (x : Str) (L : List Node) :
    Ser.mergeKids (L ++ (if c then [] else [Node.text x])) =
      Ser.mergeKids (L ++ [Node.text (if c then [] else x)]) := by
  by_cases h : c <;> simp [h, mk_append_nilText]

theorem allWs_indentN (o : Opts) (h : AllWs o.indent) (level : Nat) : AllWs (indentN o level) := by
  intro c hc
  simp only [indentN, List.mem_flatten, List.mem_replicate] at hc
  obtain ⟨l, ⟨_, rfl⟩, hcl⟩ := hc
  exact h c hcl

theorem reduced_kids {ns name : String} {attrs : List Attr} {kids : List Node}
    (hdd : directive attrs .default = .default) (hmk : mergedKids kids = true) (hma : mergedAll kids = true)
    (hr : reduceNode (reduceContentSpec pyWs) .default (.tag ns name attrs kids) = .tag ns name attrs kids) :
    (∀ k ∈ kids, k.isText = false → reduceNode (reduceContentSpec pyWs) .default k = k) ∧
    TextsOK (reduceContentSpec pyWs) true kids := by
  rw [reduceNode_tag, hdd, finishKids_default] at hr
  simp only [Node.tag.injEq, true_and] at hr
  have hidem := (idem_reduce_all _ (spec_idem pyWs pyWs_space)).2 kids .default hma
  have hmk2 := (((merged_reduce_all (reduceContentSpec pyWs)).2 kids .default hma).2 hmk).1
  generalize reduceList (reduceContentSpec pyWs) .default kids = K2 at *
  constructor
  · intro k hk hnt
    have hk' : k ∈ reduceTexts (reduceContentSpec pyWs) K2.length 0 K2 := by rw [hr]; exact hk
    rcases mem_reduceTexts _ _ _ _ _ hk' with ⟨s, rfl, _⟩ | ⟨_, hk2⟩
    · simp at hnt
    · exact (hidem k hk2).1
  · apply textsOK_of_fixed
    rw [reduceTexts_eq_F _ _ 0 _ (by simp)] at hr
    have := reduceTextsF_idem _ (spec_idem pyWs pyWs_space) true K2 hmk2
    simp only [beq_self_eq_true] at hr
    rw [hr] at this
    exact this

theorem lay_reduce (o : Opts) (hind : AllWs o.indent) :
    (∀ t, Serializable t → merged t = true → reduceNode (reduceContentSpec pyWs) .default t = t →
      ∀ level, reduceNode (reduceContentSpec pyWs) .default (normalize (layNode o level t)) = normalize t) ∧
    (∀ l, SerializableList l → mergedAll l = true →
      ∀ k ∈ l, reduceNode (reduceContentSpec pyWs) .default k = k →
      ∀ level, reduceNode (reduceContentSpec pyWs) .default (normalize (layNode o level k)) = normalize k) := by
  apply Pretty.node_induct
  · intro ns name attrs kids ih hp hm hr level
    obtain ⟨-, -, -, hn, hpk⟩ := hp.tag
    by_cases hd : directive attrs .default = .preserve
    · rw [layNode, if_pos hd]
      exact reduce_normalize_fixed _ _ hp hm _ hr
    · have hdd := directive_default_of_ne attrs hd
      simp only [merged_tag, Bool.and_eq_true] at hm
      obtain ⟨hmk, hma⟩ := hm
      by_cases hke : kids = []
      · subst hke
        rw [layNode, if_neg hd]
        simp [normalize, normalizeList, Ser.mergeKids, reduceNode_tag, directive_sortAttrs _ _ hn, hdd]
      · obtain ⟨hfix, hok⟩ := reduced_kids hdd hmk hma hr
        have hkE : kids.isEmpty = false := by simpa [List.isEmpty_iff] using hke
        have hI := allWs_indentN o hind (level + 1)
        have hT : AllWs (if o.indent.isEmpty then [] else indentN o level) :=
          allWs_ite allWs_nil (allWs_indentN o hind level)
        have hg : ∀ k : Node, k.isText = false → (normalize (layNode o (level + 1) k)).isText = false := by
          intro k hk; rw [isText_normalize, isText_layNode, hk]
        have e1 : normalize (layNode o level (.tag ns name attrs kids)) =
            .tag ns name (sortAttrs attrs)
              (bkA o (level + 1) (if o.indent.isEmpty then [] else indentN o level)
                (fun k => normalize (layNode o (level + 1) k)) true none kids) := by
          rw [layNode, if_neg hd, hkE]
          simp only [Bool.false_eq_true, if_false, normalize]
          congr 1
          rw [normalizeList_eq_map, List.map_append, List.map_append,
            (layKidsM_merged o (level + 1) normalize (fun s => by simp [normalize]) kids hmk).1]
          simp only [apply_ite (List.map normalize), List.map_cons, List.map_nil, normalize, List.cons_append,
            List.nil_append]
          rw [← List.cons_append, mk_tail, List.cons_append]
          have := ((layS_merge o (level + 1) (if o.indent.isEmpty then [] else indentN o level)
            (fun k => normalize (layNode o (level + 1) k)) hg kids hmk).1 none true rfl rfl)
          simpa [lead] using this
        rw [e1, normalize_tag_of_merged _ _ _ hmk, reduceNode_tag, directive_sortAttrs _ _ hn, hdd, finishKids_default,
          reduceList_bkA _ _ _ _ _ _ normalize hg kids true none
            (fun k hk hnt => ih hpk hma k hk (hfix k hk hnt) (level + 1)),
          reduceTexts_eq_F _ _ 0 _ (by simp)]
        simp only [beq_self_eq_true]
        rw [reduce_bkA o (level + 1) _ hI hT normalize (fun k hk => by rw [isText_normalize, hk])
          (fun s => by simp [normalize]) kids hmk true none ⟨hok, fun _ => hke⟩]
        simp
  · intro s _ _ _ level; simp [layNode, normalize]
  · intro s _ _ _ level; simp [layNode, normalize]
  · intro t s _ _ _ level; simp [layNode, normalize]
  · intro _ _ k hk; simp at hk
  · intro k ks ihk ihks hpl hma x hx hrx level
    obtain ⟨hp1, hp2⟩ := hpl.cons
    simp only [mergedAll_cons, Bool.and_eq_true] at hma
    rcases List.mem_cons.1 hx with rfl | hx
    · exact ihk hp1 hma.1 hrx level
    · exact ihks hp2 hma.2 x hx hrx level

end Delb.Pretty
