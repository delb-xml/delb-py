import DelbModel.Lemmas.Whitespace
import DelbModel.Lemmas.PrettyTransparent.Lay
/-!
# C03, step 2 (strings): reducing the whitespace of a written "gap" gives the original text

Between two non-text children (or the start / end tag) the pretty printer writes
`chunk … = gapA ++ gapM ++ gapZ`: the newline after the preceding node, the text (trimmed and
surrounded by indentation / newline) and the indentation before the following node.
`chunk_some_reduce` / `chunk_none_reduce`: whitespace reduction of the chunk gives back the text.
-/
namespace Delb.Pretty
open Delb.Ser Delb.WS

theorem pyWs_nl : pyWs '\n' = true := by decide

def sp (x : Str) : Str := if x = [] then [] else [' ']

@[simp] theorem sp_nil : sp [] = [] := rfl
@[simp] theorem sp_cons (a : Char) (x : Str) : sp (a :: x) = [' '] := by simp [sp]

section
variable (ws : Char → Bool)

theorem collapseAux_headNonWs (b : Bool) (x : Str) (h : HeadNonWs ws x) :
    collapseAux ws b x = collapseAux ws false x := by
  cases x with
  | nil => simp [collapseAux]
  | cons c cs =>
    have hc : ws c = false := by simpa using h
    simp [collapseAux, hc]

theorem collapseAux_false_allWs (W : Str) (h : Blank ws W) :
    collapseAux ws false W = sp W := by
  cases W with
  | nil => rfl
  | cons c W =>
    have hc : ws c = true := h c (by simp)
    simp [collapseAux, hc, collapseAux_allWs ws W (fun d hd => h d (by simp [hd]))]

theorem collapse_sandwich (L core R : Str) (hL : Blank ws L) (hR : Blank ws R)
    (hfix : collapse ws core = core) (hne : core ≠ []) (hh : HeadNonWs ws core) (hl : LastNonWs ws core) :
    collapse ws (L ++ (core ++ R)) = sp L ++ (core ++ sp R) := by
  obtain ⟨a, ha⟩ : ∃ a, core.getLast? = some a := Option.isSome_iff_exists.1 (by simpa using hne)
  unfold collapse at *
  rw [collapseAux_append, collapseAux_false_allWs ws L hL, collapseAux_append,
    collapseAux_headNonWs ws _ core hh, hfix, ha, Option.map_some, Option.getD_some, hl a ha,
    collapseAux_false_allWs ws R hR]

theorem sp_allWs (hsp : ws ' ' = true) (x : Str) : Blank ws (sp x) := by
  unfold sp; split <;> simp [blank_cons, hsp]

theorem reduce_sandwich (hsp : ws ' ' = true) (L core R : Str) (hL : Blank ws L)
    (hR : Blank ws R) (hfix : collapse ws core = core) (hne : core ≠ [])
    (hh : HeadNonWs ws core) (hl : LastNonWs ws core) (f l : Bool) :
    reduceContentSpec ws (L ++ (core ++ R)) f l =
      (if f then [] else sp L) ++ (core ++ (if l then [] else sp R)) := by
  unfold reduceContentSpec
  rw [collapse_sandwich ws L core R hL hR hfix hne hh hl]
  dsimp only
  rw [trim_sandwich ws (sp_allWs ws hsp L) (sp_allWs ws hsp R) hne hh hl, if_neg]
  simp [hne]

theorem reduce_allWs (hsp : ws ' ' = true) (W : Str) (hW : Blank ws W) (f l : Bool) :
    reduceContentSpec ws W f l = if f && l then [' '] else if f || l then [] else sp W := by
  unfold reduceContentSpec collapse
  rw [collapseAux_false_allWs ws W hW]
  cases W with
  | nil => cases f <;> cases l <;> simp
  | cons c W => cases f <;> cases l <;> simp [ltrim_cons, rtrim_cons, hsp]

theorem sp_congr {x y : Str} (h : x = [] ↔ y = []) : sp x = sp y := by
  simp only [sp, h]

end

def AllWs (s : Str) : Prop := ∀ c ∈ s, pyWs c = true

theorem allWs_nil : AllWs [] := by simp [AllWs]
theorem allWs_nl : AllWs ['\n'] := by simp [AllWs, pyWs_nl]
theorem allWs_space : AllWs [' '] := by simp [AllWs, pyWs_space]
theorem allWs_append {a b : Str} (ha : AllWs a) (hb : AllWs b) : AllWs (a ++ b) :=
  (blank_append pyWs a b).2 ⟨ha, hb⟩
theorem allWs_ite {c : Prop} [Decidable c] {a b : Str} (ha : AllWs a) (hb : AllWs b) :
    AllWs (if c then a else b) := by
  split <;> assumption

/-- the newline written after the node before the gap (or after the start tag) -/
def gapA (t : Option Str) (start end_ : Bool) : Str :=
  match t with
  | none => if start || end_ then ['\n'] else []
  | some s => if start || firstIsSpace s then ['\n'] else []

/-- what `flushText` writes for the gap's text -/
def gapM (o : Opts) (level : Nat) (t : Option Str) (start end_ : Bool) : Str :=
  match t with
  | none => []
  | some s => (flushStrs o level start end_ [s]).flatten

/-- the indentation written before the node after the gap (`T` before the end tag) -/
def gapZ (o : Opts) (level : Nat) (T : Str) (t : Option Str) (start end_ : Bool) : Str :=
  if end_ then T
  else match t with
    | none => if !o.indent.isEmpty && start then indentN o level else []
    | some s => if !o.indent.isEmpty && lastIsSpace s then indentN o level else []

def chunk (o : Opts) (level : Nat) (T : Str) (t : Option Str) (start end_ : Bool) : Str :=
  gapA t start end_ ++ (gapM o level t start end_ ++ gapZ o level T t start end_)

theorem firstIsSpace_shape {pre core post : Str} (hpre : pre = [] ∨ pre = [' ']) (hne : core ≠ [])
    (hh : HeadNonWs pyWs core) : firstIsSpace (pre ++ (core ++ post)) = !pre.isEmpty := by
  obtain ⟨a, tl, rfl⟩ := List.exists_cons_of_ne_nil hne
  have ha : pyWs a = false := by simpa using hh
  rcases hpre with rfl | rfl <;> simp [firstIsSpace, ha, pyWs_space]

theorem lastIsSpace_shape {pre core post : Str} (hpost : post = [] ∨ post = [' ']) (hne : core ≠ [])
    (hl : LastNonWs pyWs core) : lastIsSpace (pre ++ (core ++ post)) = !post.isEmpty := by
  rcases hpost with rfl | rfl
  · have h2 := lastNonWs_append pyWs pre core hne hl
    unfold lastIsSpace
    simp only [List.append_nil]
    cases hg : (pre ++ core).getLast? with
    | none => simp
    | some c => simpa using h2 c hg
  · unfold lastIsSpace
    rw [← List.append_assoc, List.getLast?_append]
    simp [pyWs_space]

theorem flatten_pieces (b a : Bool) (I X N : Str) :
    ((if b = true then [I] else []) ++ [X] ++ (if a = true then [N] else [])).flatten =
      (if b = true then I else []) ++ (X ++ (if a = true then N else [])) := by
  cases b <;> cases a <;> simp

section
variable (o : Opts) (level : Nat) (T : Str) (hI : AllWs (indentN o level)) (hT : AllWs T)
include hI hT

theorem gapZ_allWs (t : Option Str) (start end_ : Bool) : AllWs (gapZ o level T t start end_) := by
  unfold gapZ
  cases t <;> exact allWs_ite hT (allWs_ite hI allWs_nil)

theorem chunk_none_reduce (start end_ : Bool) (h : ¬(start = true ∧ end_ = true)) :
    reduceContentSpec pyWs (chunk o level T none start end_) start end_ = [] := by
  have hW : AllWs (chunk o level T none start end_) := by
    unfold chunk gapA gapM gapZ
    exact allWs_append (allWs_ite allWs_nl allWs_nil)
      (allWs_append allWs_nil (allWs_ite hT (allWs_ite hI allWs_nil)))
  rw [reduce_allWs pyWs pyWs_space _ hW]
  cases start <;> cases end_ <;> simp_all [chunk, gapA, gapM, gapZ]

/-- A single space is not written and the newline before it stands for it; otherwise `s` is a core between at most
    one space on either side, the gap is that core between whitespace, and there is whitespace on a side that is
    not trimmed only if `s` has a space there. -/
theorem chunk_some_reduce (s : Str) (start end_ : Bool)
    (hs : reduceContentSpec pyWs s start end_ = s) (hne : s ≠ []) :
    reduceContentSpec pyWs (chunk o level T (some s) start end_) start end_ = s ∧
      chunk o level T (some s) start end_ ≠ [] := by
  have hO : OnlySp pyWs s := hs ▸ spec_onlySp pyWs s start end_
  have hN : NoDbl s := hs ▸ spec_noDbl pyWs pyWs_space s start end_
  rcases shape_of_collapsed pyWs pyWs_space s hO hN with
    rfl | rfl | ⟨pre, core, post, rfl, hpre, hpost, hcne, hh, hl⟩
  · exact absurd rfl hne
  · have hc : chunk o level T (some [' ']) start end_ = '\n' :: gapZ o level T (some [' ']) start end_ := by
      simp [chunk, gapA, gapM, flushStrs, normText, collapse_space, firstIsSpace, pyWs_space]
    have hW : AllWs (chunk o level T (some [' ']) start end_) := by
      rw [hc]
      show AllWs (['\n'] ++ gapZ o level T (some [' ']) start end_)
      exact allWs_append allWs_nl (gapZ_allWs o level T hI hT _ _ _)
    rw [reduce_allWs pyWs pyWs_space _ allWs_space] at hs
    rw [reduce_allWs pyWs pyWs_space _ hW, hc]
    exact ⟨hs, List.cons_ne_nil _ _⟩
  · have hfirst := firstIsSpace_shape (post := post) hpre hcne hh
    have hlast := lastIsSpace_shape (pre := pre) hpost hcne hl
    have hpreW : AllWs pre := blank_nil_or_space pyWs pyWs_space hpre
    have hpostW : AllWs post := blank_nil_or_space pyWs pyWs_space hpost
    have hfix : collapse pyWs core = core :=
      collapseAux_fixed pyWs false core (fun c hc => hO c (by simp [hc]))
        (noDbl_append_left _ _ (noDbl_append_right _ _ hN)) (by simp)
    have hns : pre ++ (core ++ post) ≠ [' '] := by
      obtain ⟨a, tl, rfl⟩ := List.exists_cons_of_ne_nil hcne
      have ha : a ≠ ' ' := fun e => by rw [e, headNonWs_cons, pyWs_space] at hh; cases hh
      rcases hpre with rfl | rfl <;> simp [ha]
    have hflush : gapM o level (some (pre ++ (core ++ post))) start end_ =
        (if (!o.indent.isEmpty && (start || !pre.isEmpty)) = true then indentN o level else []) ++
        (((if (!o.indent.isEmpty && (start || !pre.isEmpty)) = true then [] else pre) ++
          (core ++ (if (end_ || !post.isEmpty) = true then [] else post))) ++
          (if (end_ || !post.isEmpty) = true then ['\n'] else [])) := by
      unfold gapM flushStrs
      simp only [List.flatten_cons, List.flatten_nil, List.append_nil, normText, collapse,
        collapseAux_fixed pyWs false _ hO hN (by simp), hns, if_false, hfirst, hlast,
        List.getLast?_singleton, Option.getD_some]
      rw [trim_sandwich pyWs hpreW hpostW hcne hh hl, flatten_pieces]
    have hred := reduce_sandwich pyWs pyWs_space pre core post hpreW hpostW hfix hcne hh hl start end_
    rw [hs] at hred
    have key : ∀ (A Ip p' q' NL Z : Str), A ++ ((Ip ++ ((p' ++ (core ++ q')) ++ NL)) ++ Z) =
        (A ++ (Ip ++ p')) ++ (core ++ (q' ++ (NL ++ Z))) := by
      intros; simp only [List.append_assoc]
    unfold chunk
    rw [hflush, key]
    generalize hLd : gapA (some (pre ++ (core ++ post))) start end_ ++ _ = L
    generalize hRd : _ ++ (_ ++ gapZ o level T (some (pre ++ (core ++ post))) start end_) = R
    have hL : AllWs L := hLd ▸ allWs_append (allWs_ite allWs_nl allWs_nil)
      (allWs_append (allWs_ite hI allWs_nil) (allWs_ite allWs_nil hpreW))
    have hR : AllWs R := hRd ▸ allWs_append (allWs_ite allWs_nil hpostW)
      (allWs_append (allWs_ite allWs_nl allWs_nil) (gapZ_allWs o level T hI hT _ _ _))
    have h1 : (if start = true then [] else sp L) = if start = true then [] else sp pre := by
      cases start
      · refine sp_congr ?_
        subst hLd
        rcases hpre with rfl | rfl <;> simp at hfirst <;> simp [gapA, hfirst]
      · rfl
    have h2 : (if end_ = true then [] else sp R) = if end_ = true then [] else sp post := by
      cases end_
      · refine sp_congr ?_
        subst hRd
        rcases hpost with rfl | rfl <;> simp at hlast <;> simp [gapZ, hlast]
      · rfl
    refine ⟨?_, by obtain ⟨a, tl, rfl⟩ := List.exists_cons_of_ne_nil hcne; simp⟩
    rw [reduce_sandwich pyWs pyWs_space L core R hL hR hfix hcne hh hl, h1, h2]
    exact hred.symm
end
end Delb.Pretty
