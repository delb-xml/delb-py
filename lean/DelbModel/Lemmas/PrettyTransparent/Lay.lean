import DelbModel.Model.Pretty
import DelbModel.Lemmas.Roundtrip
import DelbModel.Lemmas.Pretty
/-!
# C03, step 1: the pretty printer's output is the plain emission of a "laid-out" tree

`layNode` adds the inserted whitespace to a tree as separate text nodes, mirroring
`prettyTag` / `prettyKids` exactly.  Reading the pretty printer's pieces back with `Ser.build`
gives `normalize (layNode … t)` (`pretty_build`, `prettyRoot_build`); no assumption on the
shape of the text nodes is needed for this step.
-/
namespace Delb.Pretty
open Delb.Ser Delb.WS

/-- the character data `flushText` writes, piece by piece -/
def flushStrs (o : Opts) (level : Nat) (atStart atEnd : Bool) (run : List Str) : List Str :=
  match run with
  | [] => []
  | first :: _ =>
    let content := normText run.flatten
    if content = [' '] then []
    else
      let before := !o.indent.isEmpty && (atStart || firstIsSpace first)
      let after := atEnd || lastIsSpace (run.getLast?.getD [])
      let c1 := if before then ltrim pyWs content else content
      let c2 := if after then rtrim pyWs c1 else c1
      (if before then [indentN o level] else []) ++ [c2] ++ (if after then [['\n']] else [])

theorem eraseAll_flushText (o : Opts) (level : Nat) (a b : Bool) (run : List Str) :
    eraseAll (flushText o level a b run) = (flushStrs o level a b run).map Tok.chars := by
  cases run with
  | nil => rfl
  | cons first rest =>
    simp only [flushText, flushStrs]
    by_cases hc : normText (first :: rest).flatten = [' ']
    · rw [if_pos hc, if_pos hc]; rfl
    · rw [if_neg hc, if_neg hc]
      generalize (!o.indent.isEmpty && (a || firstIsSpace first)) = before
      generalize (b || lastIsSpace ((first :: rest).getLast?.getD [])) = after
      cases before <;> cases after <;> rfl

/-- `_whitespace_is_legit_after_node` for a node whose following siblings are `rest` -/
def postNl (rest : List Node) : Bool :=
  legitAfterNode (rest.find? (fun n => match n with | .text s => !s.isEmpty | _ => true))

mutual
  /-- the tree with the layout whitespace of `prettyTag` added as text nodes -/
  def layNode (o : Opts) (level : Nat) : Node → Node
    | .tag ns name attrs kids =>
      if directive attrs .default = .preserve then .tag ns name attrs kids
      else if kids.isEmpty then .tag ns name attrs []
      else .tag ns name attrs
        ([.text ['\n']] ++ layKidsM o (level + 1) none [] true kids
          ++ (if o.indent.isEmpty then [] else [.text (indentN o level)]))
    | n => n
  /-- mirrors `prettyKids` -/
  def layKidsM (o : Opts) (level : Nat) (prev : Option Node) (run : List Str) (ras : Bool) :
      List Node → List Node
    | [] => (flushStrs o level ras true run).map Node.text
    | .text s :: rest =>
      if s.isEmpty then layKidsM o level prev run ras rest
      else layKidsM o level prev (run ++ [s]) (if run.isEmpty then prev.isNone else ras) rest
    | k :: rest =>
      (flushStrs o level ras false run).map Node.text
        ++ (if !o.indent.isEmpty && legitBeforeNode (if run.isEmpty then prev else lastText run)
              then [Node.text (indentN o level)] else [])
        ++ [layNode o level k]
        ++ (if postNl rest then [Node.text ['\n']] else [])
        ++ layKidsM o level (some k) [] false rest
end

theorem layKidsM_nil (o level prev run ras) :
    layKidsM o level prev run ras [] = (flushStrs o level ras true run).map Node.text := by
  rw [layKidsM]

theorem layKidsM_text (o level prev run ras s rest) :
    layKidsM o level prev run ras (.text s :: rest) =
      if s.isEmpty then layKidsM o level prev run ras rest
      else layKidsM o level prev (run ++ [s]) (if run.isEmpty then prev.isNone else ras) rest := by
  rw [layKidsM]

theorem layKidsM_node (o level prev run ras k rest) (hk : k.isText = false) :
    layKidsM o level prev run ras (k :: rest) =
      (flushStrs o level ras false run).map Node.text
        ++ (if !o.indent.isEmpty && legitBeforeNode (if run.isEmpty then prev else lastText run)
              then [Node.text (indentN o level)] else [])
        ++ [layNode o level k]
        ++ (if postNl rest then [Node.text ['\n']] else [])
        ++ layKidsM o level (some k) [] false rest :=
  layKidsM.eq_3 o level prev run ras k rest (Node.ne_text hk)

@[simp] theorem eraseAll_nil : eraseAll [] = [] := rfl
@[simp] theorem eraseAll_cons (p : Piece) (ps : List Piece) : eraseAll (p :: ps) = erase p ++ eraseAll ps := by
  simp [eraseAll]
@[simp] theorem eraseAll_append (a b : List Piece) : eraseAll (a ++ b) = eraseAll a ++ eraseAll b := by
  simp [eraseAll]

theorem layoutAttrs_erase (o : Opts) (level : Nat) (ad : List (Str × Str)) :
    (layoutAttrs o level ad).1.map (fun a => (a.2.1, a.2.2)) = ad := by
  unfold layoutAttrs
  split <;> simp [Function.comp_def]

theorem pushAll_append (acc a b : List Node) : pushAll acc (a ++ b) = pushAll (pushAll acc a) b := by
  simp [pushAll, List.foldl_append]

theorem pushAll_cons (acc : List Node) (n : Node) (l : List Node) :
    pushAll acc (n :: l) = pushAll (pushNode n acc) l := by
  simp [pushAll]

@[simp] theorem pushAll_nil (acc : List Node) : pushAll acc [] = acc := rfl

theorem normalizeList_eq_map : ∀ l, normalizeList l = l.map normalize
  | [] => by simp [normalizeList]
  | k :: ks => by simp [normalizeList, normalizeList_eq_map ks]

theorem normalizeList_append (a b : List Node) : normalizeList (a ++ b) = normalizeList a ++ normalizeList b := by
  simp only [normalizeList_eq_map, List.map_append]

theorem normalizeList_texts (ss : List Str) : normalizeList (ss.map Node.text) = ss.map Node.text := by
  simp [normalizeList_eq_map, normalize]

theorem buildAux_charsList : ∀ (ss : List Str) (rest : List Tok) (f : Frame) (fs : List Frame) (done : Option Node),
    buildAux (ss.map Tok.chars ++ rest) (f :: fs) done =
      buildAux rest ({ f with kids := pushAll f.kids (ss.map Node.text) } :: fs) done
  | [], rest, f, fs, done => by simp
  | s :: ss, rest, f, fs, done => by
    simp only [List.map_cons, List.cons_append, buildAux_chars]
    rw [buildAux_charsList ss]
    simp [pushAll_cons, pushNode]

theorem buildAux_optLayout (c : Prop) [Decidable c] (s : Str) (rest : List Tok) (f : Frame) (fs : List Frame)
    (done : Option Node) :
    buildAux (eraseAll (if c then [Piece.layout s] else []) ++ rest) (f :: fs) done =
      buildAux rest ({ f with kids := pushAll f.kids (normalizeList (if c then [Node.text s] else [])) } :: fs) done := by
  by_cases h : c
  · simp [h, erase, buildAux_chars, normalizeList, normalize, pushAll_cons, pushNode]
  · simp [h, normalizeList]

theorem isText_normalize (k : Node) : (normalize k).isText = k.isText := by
  cases k <;> simp [normalize, Node.isText]

theorem isText_layNode (o : Opts) (level : Nat) (k : Node) : (layNode o level k).isText = k.isText := by
  cases k with
  | tag ns name attrs kids =>
    rw [layNode]
    split
    · rfl
    · split <;> rfl
  | _ => simp [layNode]

theorem pushNode_nontext (n : Node) (acc : List Node) (h : n.isText = false) : pushNode n acc = n :: acc := by
  cases n <;> simp_all [pushNode, Node.isText]

theorem prettyTag_preserve_any {o : Opts} {m : Dict} {level : Nat} {ad' : List (Str × Str)} {ns name : String}
    {attrs : List Attr} {kids : List Node} {ps : List Piece}
    (hd : directive attrs .default = .preserve)
    (h : prettyTag o m level ad' (.tag ns name attrs kids) = .ok ps) :
    ∃ qn ad sc rest, emitNode m (.tag ns name attrs kids) = .ok (.stag qn ad sc :: rest) ∧
      attrsData m (sortAttrs attrs) = .ok ad ∧ ps = [.verbatim (.stag qn ad' sc :: rest)] := by
  rw [prettyTag.eq_1, if_pos hd] at h
  cases he : emitNode m (.tag ns name attrs kids) with
  | error e => rw [he] at h; cases h
  | ok ts =>
    obtain ⟨p, ad, ks, _, had, _, rfl⟩ := emitNode_tag_inv he
    rw [he] at h
    cases kids <;> cases h <;> exact ⟨_, _, _, _, rfl, had, rfl⟩

theorem directive_default_of_ne (attrs : List Attr) (h : ¬ directive attrs .default = .preserve) :
    directive attrs .default = .default := by
  cases hd : directive attrs .default with
  | default => rfl
  | preserve => exact absurd hd h

section
variable {m : Dict} (hc : MapCtx m)
include hc

theorem prettyTag_build (o : Opts) {ns name : String} {attrs : List Attr} {kids : List Node}
    (hs : Serializable (.tag ns name attrs kids))
    (ihk : ∀ level prev run ras ks, prettyKids o m level prev run ras kids = .ok ks → SerializableList kids →
      ∀ rest f fs, f.scope = rootScope m →
      buildAux (eraseAll ks ++ rest) (f :: fs) none =
        buildAux rest ({ f with kids := pushAll f.kids (normalizeList (layKidsM o level prev run ras kids)) } :: fs) none)
    {ad : List (Str × Str)} (had : attrsData m (sortAttrs attrs) = .ok ad)
    {D : List (Str × Str)} (hD : ∀ kv ∈ D, isDecl kv.1 = true) {st : List Frame}
    (hst : scopeOf D (topScope st) = rootScope m) {level : Nat} {ps : List Piece}
    (h : prettyTag o m level (D ++ ad) (.tag ns name attrs kids) = .ok ps) (rest : List Tok) :
    buildAux (eraseAll ps ++ rest) st none =
      finish (normalize (layNode o level (.tag ns name attrs kids))) rest st none := by
  obtain ⟨hname, hns, hattrs, -, hkids⟩ := hs.tag
  have hel := fun p hp kids' ks' hks' =>
    buildAux_element (p := p) (kids := kids') (ks := ks') hc hp had hname hns hattrs hks' hD hst rest
  by_cases hd : directive attrs .default = .preserve
  · obtain ⟨qn, ad0, sc, toks, he, had0, rfl⟩ := prettyTag_preserve_any hd h
    obtain ⟨p, ad1, ks, hp, had1, hks, hform⟩ := emitNode_tag_inv he
    cases had.symm.trans had0
    cases had.symm.trans had1
    have := hel p hp kids ks (emitKids_build hc kids ks hks hkids)
    simp only [eraseAll_cons, erase, eraseAll_nil, List.append_nil]
    rw [layNode, if_pos hd]
    cases kids <;> cases hform <;> exact this
  · obtain ⟨p, hp, hcase⟩ := prettyTag_ok (directive_default_of_ne attrs hd) h
    rw [layNode, if_neg hd]
    rcases hcase with ⟨rfl, rfl⟩ | ⟨hne, ks, hks, rfl⟩
    · simp only [eraseAll_cons, erase, eraseAll_nil, List.append_nil, layoutAttrs_erase]
      exact hel p (pfx_ok_iff.mpr hp) [] [] (fun _ _ _ _ => rfl)
    · have hke : kids.isEmpty = false := by simpa [List.isEmpty_iff] using hne
      have := hel p (pfx_ok_iff.mpr hp)
        ([.text ['\n']] ++ layKidsM o (level + 1) none [] true kids
          ++ (if o.indent.isEmpty then [] else [.text (indentN o level)]))
        (.chars ['\n'] :: (eraseAll ks
          ++ eraseAll (if o.indent.isEmpty then [] else [Piece.layout (indentN o level)])))
        (fun rest f fs hf => by
          rw [List.cons_append, List.append_assoc, buildAux_chars, ihk _ _ _ _ _ hks hkids _ _ _ (by exact hf)]
          by_cases hi : o.indent.isEmpty = true <;>
            simp [hi, erase, buildAux_chars, normalizeList_append, normalizeList, normalize, pushAll_append,
              pushAll_cons, pushNode])
      simpa only [hke, eraseAll_cons, eraseAll_append, erase, eraseAll_nil, layoutAttrs_erase, List.cons_append,
        List.nil_append, List.append_assoc, List.append_nil, List.isEmpty_cons, Bool.false_eq_true, if_false]
        using this

theorem pretty_build (o : Opts) :
    (∀ k, ∀ level b, k.isText = false → nodeBody o m level k = .ok b → Serializable k →
      ∀ rest f fs, f.scope = rootScope m →
      buildAux (eraseAll b ++ rest) (f :: fs) none =
        buildAux rest ({ f with kids := normalize (layNode o level k) :: f.kids } :: fs) none) ∧
    (∀ l, ∀ level prev run ras ks, prettyKids o m level prev run ras l = .ok ks → SerializableList l →
      ∀ rest f fs, f.scope = rootScope m →
      buildAux (eraseAll ks ++ rest) (f :: fs) none =
        buildAux rest ({ f with kids := pushAll f.kids (normalizeList (layKidsM o level prev run ras l)) } :: fs) none) := by
  apply Pretty.node_induct
  · intro ns name attrs kids ihk level b _ hb hk rest f fs hf
    obtain ⟨ad, had, hb⟩ := nodeBody_tag_ok hb
    exact prettyTag_build hc o hk ihk had (D := []) nofun (st := f :: fs) (by exact hf) hb rest
  · intro s level b h; simp [Node.isText] at h
  · intro s level b _ hb _ rest f fs _
    simp only [nodeBody] at hb
    cases hb
    simp [erase, buildAux_comment, layNode, normalize]
  · intro t s level b _ hb _ rest f fs _
    simp only [nodeBody] at hb
    cases hb
    simp [erase, buildAux_pi, layNode, normalize]
  · intro level prev run ras ks h _ rest f fs _
    rw [prettyKids_nil] at h
    cases h
    rw [eraseAll_flushText, buildAux_charsList, layKidsM_nil, normalizeList_texts]
  · intro k l ihk ihl level prev run ras ks h hpl rest f fs hf
    obtain ⟨hk1, hk2⟩ := hpl.cons
    rcases k.text_or_not with ⟨s, rfl⟩ | hk
    · rw [prettyKids_text] at h
      rw [layKidsM_text]
      split at h
      · rename_i hs; rw [if_pos hs]; exact ihl _ _ _ _ _ h hk2 _ _ _ hf
      · rename_i hs; rw [if_neg hs]; exact ihl _ _ _ _ _ h hk2 _ _ _ hf
    · rw [prettyKids_node _ _ _ _ _ _ _ _ hk] at h
      obtain ⟨body, r', hb, hr, rfl⟩ := combine_ok h
      rw [layKidsM_node _ _ _ _ _ _ _ hk]
      simp only [eraseAll_append, List.append_assoc, eraseAll_flushText, normalizeList_append,
        normalizeList_texts, pushAll_append]
      rw [buildAux_charsList, buildAux_optLayout]
      dsimp only
      rw [ihk level body hk hb hk1 _ _ _ (by exact hf), buildAux_optLayout]
      dsimp only
      rw [ihl _ _ _ _ _ hr hk2 _ _ _ (by exact hf)]
      have hn : (normalize (layNode o level k)).isText = false := by
        rw [isText_normalize, isText_layNode, hk]
      simp only [normalizeList, pushAll_cons, pushAll_nil, pushNode_nontext _ _ hn]
      rfl

theorem prettyRoot_build (o : Opts) (t : Node) (htag : t.isTag = true) (ht : Serializable t) (ps : List Piece)
    (h : prettyRoot o m t = .ok ps) : build (eraseAll ps) = some (normalize (layNode o 0 t)) := by
  cases t with
  | text s => cases htag
  | comment s => cases htag
  | pi t s => cases htag
  | tag ns name attrs kids =>
    simp only [prettyRoot] at h
    split at h
    · cases h
    rename_i ad had
    have := prettyTag_build hc o ht ((pretty_build hc o).2 kids) had (isDecl_declarations m) (st := []) rfl h []
    rwa [List.append_nil] at this
end
end Delb.Pretty
