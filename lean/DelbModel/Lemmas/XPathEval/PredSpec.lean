import DelbModel.Model.XPath.PredSpec
import DelbModel.Lemmas.XPathEval.Steps
/-!
# C06: the mechanism's predicate values against `Model/XPath/PredSpec.lean`

`mechVal tag e x` is the Python object the mechanism computes for an expression `e` whose XPath 1.0
value is `x` (on a tag node / another node).  `evalExpr_mechVal` proves that, outside the marked
situations, this is what `evalExpr` returns.
-/
namespace Delb.XPath
open Delb.Edit

/-- the mechanism's rendering of an XPath 1.0 value where `@name` is `attrVal`: the node-set as the value or `""`
    on a tag node, `None` elsewhere -/
def mechV (tag : Bool) : XVal → Val
  | .bool b => .b b
  | .num n => .i n
  | .str s => .s s
  | .nodes a => if tag then .s (a.getD []) else .none

/-- … where `@name` is `hasAttr`: the node-set as presence -/
def mechB : XVal → Val
  | .bool b => .b b
  | .num n => .i n
  | .str s => .s s
  | .nodes a => .b a.isSome

def mechVal (tag : Bool) (e : Expr) (x : XVal) : Val :=
  if isHasAttr e then mechB x else mechV tag x

theorem mechVal_of_not_hasAttr {tag : Bool} {e : Expr} (h : isHasAttr e = false) (x : XVal) :
    mechVal tag e x = mechV tag x := by simp [mechVal, h]

def mechVals (tag : Bool) : List Expr → List XVal → List Val
  | a :: as, x :: xs => mechVal tag a x :: mechVals tag as xs
  | _, _ => []

variable {root : PTree} {env : NsEnv} {c : Ctx}

theorem attrNode_eq_some {root : PTree} {env : NsEnv} {n : XNode} {pfx : Option Str} {name : Str} {a : Option Str}
    (h : attrNode root env n pfx name = some a) :
    checkPrefix env pfx = .ok () ∧
    a = (match nodeOf root n with
         | some (.tag _ _ _ attrs _) =>
           lookupAttrVal attrs ((pfx.bind fun p => Ser.dget env (showS p)).getD "") (showS name)
         | _ => none) := by
  unfold attrNode at h
  cases pfx with
  | none => cases h; exact ⟨rfl, rfl⟩
  | some p =>
    cases hd : Ser.dget env (showS p) with
    | none => simp [hd] at h
    | some uri =>
      simp only [hd, Option.some.injEq] at h
      refine ⟨by simp [checkPrefix, hd], ?_⟩
      rw [← h, Option.bind_some, hd]
      rfl

theorem evalExpr_attr (root : PTree) (env : NsEnv) (c : Ctx) (pfx : Option Str) (name : Str) (a : Option Str)
    (h : attrNode root env c.node pfx name = some a) :
    evalExpr root env c (.hasAttr pfx name) = .ok (.b a.isSome) ∧
    evalExpr root env c (.attrVal pfx name) =
      .ok (if isTagNode root c.node then .s (a.getD []) else .none) := by
  obtain ⟨hp, rfl⟩ := attrNode_eq_some h
  rw [evalExpr, evalExpr, hp]
  unfold isTagNode
  cases nodeOf root c.node with
  | none => exact ⟨rfl, rfl⟩
  | some t => cases t <;> exact ⟨rfl, rfl⟩

theorem attrNode_nontag {root : PTree} {env : NsEnv} {n : XNode} {pfx : Option Str} {name : Str} {a : Option Str}
    (ht : isTagNode root n = false) (h : attrNode root env n pfx name = some a) : a = none := by
  obtain ⟨-, rfl⟩ := attrNode_eq_some h
  unfold isTagNode at ht
  cases hn : nodeOf root n with
  | none => rfl
  | some t =>
    cases t with
    | tag => rw [hn] at ht; cases ht
    | _ => rfl

def nodesSome : XVal → Bool
  | .nodes (some _) => true
  | _ => false

def isNodes : XVal → Bool
  | .nodes _ => true
  | _ => false

/-! ## node-sets: only `@name` denotes one, and off tag nodes it is empty -/

theorem binSpec_not_nodes {op : String} {x y z : XVal} (h : binSpec op x y = some z) : isNodes z = false := by
  cases z with
  | nodes a => unfold binSpec at h; split at h <;> simp at h
  | _ => rfl

theorem funSpec_not_nodes {c : Ctx} {n : String} {xs : List XVal} {z : XVal} (h : funSpec c n xs = some z) :
    isNodes z = false := by
  cases z with
  | nodes a =>
    unfold funSpec at h
    split at h <;> try split at h
    all_goals cases h
  | _ => rfl

theorem valSpec_nodes {e : Expr} {a : Option Str} (h : valSpec root env c e = some (.nodes a)) :
    ∃ pfx name, (e = .hasAttr pfx name ∨ e = .attrVal pfx name) ∧ attrNode root env c.node pfx name = some a := by
  cases e with
  | num n => simp [valSpec] at h
  | str s => simp [valSpec] at h
  | hasAttr p n => exact ⟨p, n, .inl rfl, by simpa [valSpec] using h⟩
  | attrVal p n => exact ⟨p, n, .inr rfl, by simpa [valSpec] using h⟩
  | binop op l r =>
    simp only [valSpec] at h
    split at h
    · cases binSpec_not_nodes h
    · cases h
  | func name args =>
    simp only [valSpec] at h
    split at h
    · cases funSpec_not_nodes h
    · cases h

theorem isHasAttr_of_nodes {e : Expr} {x : XVal}
    (h : valSpec root env c e = some x) (hn : isNodes x = true) (hv : isAttrVal e = false) : isHasAttr e = true := by
  cases x with
  | nodes a =>
    obtain ⟨p, n, rfl | rfl, -⟩ := valSpec_nodes h
    · rfl
    · cases hv
  | _ => cases hn

theorem valSpec_nodes_nontag {e : Expr} {x : XVal}
    (h : valSpec root env c e = some x) (ht : isTagNode root c.node = false) : nodesSome x = false := by
  cases x with
  | nodes a =>
    obtain ⟨p, n, -, ha⟩ := valSpec_nodes h
    rw [attrNode_nontag ht ha]
    rfl
  | _ => rfl

/-! ## the operators on mechanism values

The per-node conditions of `PredSafe` on an operator are conditions on the two operand VALUES, and are restated
on values. -/

/-- `attrCompareAt` on the operand values; `isEq` says that the operator is `=` -/
def attrCompareV (isEq : Bool) : XVal → XVal → Bool
  | .nodes a, .str s => a.isSome || (isEq && !s.isEmpty)
  | .str s, .nodes a => a.isSome || (isEq && !s.isEmpty)
  | .nodes a, .nodes b => a.isSome && b.isSome
  | _, _ => true

/-- `boolCompareAt` on the operand values -/
def boolCompareV : XVal → XVal → Bool
  | .bool _, .bool _ => true
  | .bool _, _ => false
  | _, .bool _ => false
  | _, _ => true

/-- one operand of `andOrAt`: neither a number nor a string -/
def boolish : XVal → Bool
  | .num _ => false
  | .str _ => false
  | _ => true

section
variable {op : String} {l r : Expr} {x y : XVal}
  (hl : valSpec root env c l = some x) (hr : valSpec root env c r = some y)
include hl hr

theorem attrCompareAt_binop (hop : op = "=" ∨ op = "!=") :
    attrCompareAt root env c (.binop op l r) = attrCompareV (op == "=") x y := by
  simp only [attrCompareAt, if_pos hop, hl, hr]
  cases x <;> cases y <;> rfl

theorem boolCompareAt_binop (hop : op = "=" ∨ op = "!=") :
    boolCompareAt root env c (.binop op l r) = boolCompareV x y := by
  simp only [boolCompareAt, if_pos hop, hl, hr]
  cases x <;> cases y <;> rfl

theorem andOrAt_binop (hop : op = "and" ∨ op = "or") :
    andOrAt root env c (.binop op l r) = (boolish x && boolish y) := by
  simp only [andOrAt, if_pos hop, hl, hr]
  cases x <;> cases y <;> rfl
end

/-- `=` (`ne = false`) and `!=` (`ne = true`): Python's `==` on the mechanism's values is the comparison of §3.4 -/
theorem pyEq_mechV (tag ne : Bool) {x y : XVal} {b : Bool}
    (hx : tag = false → nodesSome x = false) (hy : tag = false → nodesSome y = false)
    (hz : eqSpec ne x y = some b) (h1 : attrCompareV (!ne) x y = true) (h6 : boolCompareV x y = true) :
    (pyEq (mechV tag x) (mechV tag y) != ne) = b := by
  cases x with
  | bool p =>
    cases y with
    | bool q => cases hz; exact congrArg (· != ne) (pyEq_b p q)
    | _ => cases h6
  | num n =>
    cases y with
    | num m => cases hz; exact congrArg (· != ne) (pyEq_i n m)
    | bool q => cases h6
    | _ => cases hz
  | str s =>
    cases y with
    | str s' => cases hz; exact congrArg (· != ne) (pyEq_s s s')
    | num m => cases hz
    | bool q => cases h6
    | nodes a' =>
      cases hz
      cases a' with
      | some v => 
        have : tag = true := by cases tag; simp [nodesSome] at hy; rfl
        subst this; simp [mechV, pyEq_s]
      | none =>
        simp [attrCompareV] at h1
        cases tag <;> simp [mechV, pyEq_s, pyEq_s_none, h1]
  | nodes a =>
    cases y with
    | num m => cases hz
    | bool q => cases h6
    | str s' =>
      cases hz
      cases a with
      | some v => 
        have : tag = true := by cases tag; simp [nodesSome] at hx; rfl
        subst this; simp [mechV, pyEq_s]
      | none =>
        simp [attrCompareV] at h1
        cases tag <;> simp [mechV, pyEq_s, pyEq_none_s, h1]
    | nodes a' =>
      cases hz
      simp [attrCompareV] at h1
      obtain ⟨v, rfl⟩ := Option.isSome_iff_exists.1 h1.1
      obtain ⟨v', rfl⟩ := Option.isSome_iff_exists.1 h1.2
      have : tag = true := by cases tag; simp [nodesSome] at hx; rfl
      subst this; simp [mechV, pyEq_s]

theorem asInt_mechV {tag : Bool} {x : XVal} {a : Nat} (h : x.toNum = some a) : asInt (mechV tag x) = some (a : Int) := by
  cases x with
  | num n => cases h; rfl
  | bool p => cases h; cases p <;> rfl
  | _ => cases h

theorem applyOp_rel_mechV (tag : Bool) {op : String} (hop : op = "<" ∨ op = "<=" ∨ op = ">" ∨ op = ">=")
    {x y : XVal} {b : Bool} (hz : relSpec op x y = some b) :
    applyOp op (mechV tag x) (mechV tag y) = .ok (.b b) := by
  unfold relSpec at hz
  split at hz
  · next m k hm hk =>
    have h1 := asInt_mechV (tag := tag) hm
    have h2 := asInt_mechV (tag := tag) hk
    cases hz
    rcases hop with rfl | rfl | rfl | rfl <;> simp [applyOp, h1, h2]
  · cases hz

theorem mechVal_boolish {tag : Bool} {e : Expr} {x : XVal} (hb : boolish x = true)
    (he : isNodes x = true → isHasAttr e = true) : mechVal tag e x = .b x.toBool := by
  cases x with
  | nodes a => simp [mechVal, he rfl, mechB, XVal.toBool]
  | bool p => simp [mechVal, mechB, mechV, XVal.toBool]
  | _ => cases hb

theorem binop_mechVal (root : PTree) (env : NsEnv) (c : Ctx) (op : String) (l r : Expr) (x y z : XVal)
    (hl : valSpec root env c l = some x) (hr : valSpec root env c r = some y)
    (hz : binSpec op x y = some z)
    (h0 : shapeAt (.binop op l r) = true)
    (h1 : attrCompareAt root env c (.binop op l r) = true)
    (h5 : andOrAt root env c (.binop op l r) = true)
    (h6 : boolCompareAt root env c (.binop op l r) = true) :
    applyOp op (mechVal (isTagNode root c.node) l x) (mechVal (isTagNode root c.node) r y) =
      .ok (mechVal (isTagNode root c.node) (.binop op l r) z) := by
  have hx := valSpec_nodes_nontag hl
  have hy := valSpec_nodes_nontag hr
  rw [mechVal_of_not_hasAttr (e := .binop op l r) rfl]
  by_cases hao : op = "and" ∨ op = "or"
  · simp only [shapeAt, if_pos hao, Bool.and_eq_true, Bool.not_eq_true'] at h0
    rw [andOrAt_binop hl hr hao, Bool.and_eq_true] at h5
    rw [mechVal_boolish h5.1 fun h => isHasAttr_of_nodes hl h h0.1,
      mechVal_boolish h5.2 fun h => isHasAttr_of_nodes hr h h0.2]
    rcases hao with rfl | rfl <;> cases hz <;> rfl
  · simp only [shapeAt, if_neg hao, Bool.and_eq_true, Bool.not_eq_true'] at h0
    rw [mechVal_of_not_hasAttr h0.1, mechVal_of_not_hasAttr h0.2]
    unfold binSpec at hz
    split at hz
    · obtain ⟨b, hb, rfl⟩ := Option.map_eq_some_iff.1 hz
      rw [attrCompareAt_binop hl hr (.inl rfl)] at h1
      rw [boolCompareAt_binop hl hr (.inl rfl)] at h6
      rw [applyOp_eq, ← pyEq_mechV _ false hx hy hb h1 h6]
      simp [mechV]
    · obtain ⟨b, hb, rfl⟩ := Option.map_eq_some_iff.1 hz
      rw [attrCompareAt_binop hl hr (.inr rfl)] at h1
      rw [boolCompareAt_binop hl hr (.inr rfl)] at h6
      rw [applyOp_ne, ← pyEq_mechV _ true hx hy hb h1 h6]
      simp [mechV]
    · obtain ⟨b, hb, rfl⟩ := Option.map_eq_some_iff.1 hz
      exact applyOp_rel_mechV _ (.inl rfl) hb
    · obtain ⟨b, hb, rfl⟩ := Option.map_eq_some_iff.1 hz
      exact applyOp_rel_mechV _ (.inr (.inl rfl)) hb
    · obtain ⟨b, hb, rfl⟩ := Option.map_eq_some_iff.1 hz
      exact applyOp_rel_mechV _ (.inr (.inr (.inl rfl))) hb
    · obtain ⟨b, hb, rfl⟩ := Option.map_eq_some_iff.1 hz
      exact applyOp_rel_mechV _ (.inr (.inr (.inr rfl))) hb
    · exact absurd (.inl rfl) hao
    · exact absurd (.inr rfl) hao
    · cases hz

theorem valSpecArgs_nil {args : List Expr}
    (h : valSpecArgs root env c args = some []) : args = [] := by
  cases args with
  | nil => rfl
  | cons a as =>
    simp only [valSpecArgs] at h
    split at h <;> cases h

theorem valSpecArgs_cons {args : List Expr} {x : XVal} {xs : List XVal}
    (h : valSpecArgs root env c args = some (x :: xs)) :
    ∃ a as, args = a :: as ∧ valSpec root env c a = some x ∧ valSpecArgs root env c as = some xs := by
  cases args with
  | nil => simp [valSpecArgs] at h
  | cons a as =>
    simp only [valSpecArgs] at h
    split at h
    · next hx hxs =>
      simp only [Option.some.injEq, List.cons.injEq] at h
      obtain ⟨rfl, rfl⟩ := h
      exact ⟨a, as, rfl, hx, hxs⟩
    · cases h

theorem truthy_mechVal {tag : Bool} {e : Expr} {x : XVal} (he : isNodes x = true → isHasAttr e = true) :
    truthy (mechVal tag e x) = x.toBool := by
  cases x with
  | nodes a => simp [mechVal, he rfl, mechB, truthy, XVal.toBool]
  | num n =>
    simp only [mechVal, mechB, mechV, ite_self, truthy, XVal.toBool]
    rw [Bool.eq_iff_iff]; simp only [bne_iff_ne, ne_eq]; omega
  | _ => simp [mechVal, mechB, mechV, truthy, XVal.toBool]

/-- the argument of `boolean` / `not`, where `@name` is rendered as its value: the same unless the value is empty -/
theorem truthy_mechVal_toBool {a : Expr} {x : XVal} (ha : valSpec root env c a = some x) (h0 : isHasAttr a = false)
    (h : (match some x with | some (.nodes (some v)) => !v.isEmpty | _ => true) = true) :
    truthy (mechVal (isTagNode root c.node) a x) = x.toBool := by
  cases x with
  | nodes o =>
    have hx := valSpec_nodes_nontag ha
    rw [mechVal_of_not_hasAttr h0]
    generalize isTagNode root c.node = tag at hx
    rcases o with _ | v
    · cases tag <;> simp [mechV, truthy, XVal.toBool]
    · cases tag
      · simp [nodesSome] at hx
      · simp at h; simp [mechV, truthy, XVal.toBool, h]
  | _ => exact truthy_mechVal fun hn => nomatch hn

theorem mechVal_toStr {a : Expr} {x : XVal} {s : Str}
    (ha : valSpec root env c a = some x) (hs : x.toStr = some s) (h0 : isHasAttr a = false)
    (h4 : isTagNode root c.node = true ∨ isAttrVal a = false) : mechVal (isTagNode root c.node) a x = .s s := by
  rw [mechVal_of_not_hasAttr h0]
  rcases x with o | s' | n | b
  · have : isAttrVal a = true := by
      cases hv : isAttrVal a with
      | true => rfl
      | false => rw [isHasAttr_of_nodes ha rfl hv] at h0; cases h0
    have ht : isTagNode root c.node = true := by
      rcases h4 with h | h
      · exact h
      · rw [this] at h; cases h
    simp [XVal.toStr] at hs
    simp [mechV, ht, hs]
  · simp [XVal.toStr] at hs
    simp [mechV, hs]
  · simp [XVal.toStr] at hs
  · simp [XVal.toStr] at hs

theorem valSpecArgs_one {args : List Expr} {x : XVal}
    (h : valSpecArgs root env c args = some [x]) : ∃ a, args = [a] ∧ valSpec root env c a = some x := by
  obtain ⟨a, as, rfl, ha, has⟩ := valSpecArgs_cons h
  cases valSpecArgs_nil has
  exact ⟨a, rfl, ha⟩

theorem valSpecArgs_two {args : List Expr} {x y : XVal}
    (h : valSpecArgs root env c args = some [x, y]) :
    ∃ a b, args = [a, b] ∧ valSpec root env c a = some x ∧ valSpec root env c b = some y := by
  obtain ⟨a, as, rfl, ha, has⟩ := valSpecArgs_cons h
  obtain ⟨b, rfl, hb⟩ := valSpecArgs_one has
  exact ⟨a, b, rfl, ha, hb⟩

theorem func_mechVal (root : PTree) (env : NsEnv) (c : Ctx) (name : Str) (args : List Expr) (xs : List XVal) (z : XVal)
    (hargs : valSpecArgs root env c args = some xs)
    (hev : evalArgs root env c args = .ok (mechVals (isTagNode root c.node) args xs))
    (hz : funSpec c (showS name) xs = some z)
    (h0 : shapeAt (.func name args) = true)
    (h2 : attrBooleanAt root env c (.func name args) = true)
    (h4 : attrFunctionAt root c (.func name args) = true) :
    evalExpr root env c (.func name args) = .ok (mechVal (isTagNode root c.node) (.func name args) z) := by
  rw [mechVal_of_not_hasAttr (e := .func name args) rfl, evalExpr, hev]
  simp only
  unfold funSpec at hz
  split at hz
  · next hn =>
    cases valSpecArgs_nil hargs
    cases hz
    simp [hn, mechVals, mechV]
  · next hn =>
    cases valSpecArgs_nil hargs
    cases hz
    simp [hn, mechVals, mechV]
  · next x hn =>
    obtain ⟨a, rfl, ha⟩ := valSpecArgs_one hargs
    cases hz
    simp [shapeAt] at h0
    simp [attrBooleanAt, hn, ha] at h2
    simp [hn, mechVals, truthy_mechVal_toBool ha h0 h2, mechV]
  · next x hn =>
    obtain ⟨a, rfl, ha⟩ := valSpecArgs_one hargs
    cases hz
    simp [shapeAt] at h0
    simp [attrBooleanAt, hn, ha] at h2
    simp [hn, mechVals, truthy_mechVal_toBool ha h0 h2, mechV]
  · next x y hn =>
    obtain ⟨a, b, rfl, ha, hb⟩ := valSpecArgs_two hargs
    simp [shapeAt] at h0
    simp [attrFunctionAt, hn] at h4
    split at hz
    · next sa sb hsa hsb =>
      cases hz
      simp [hn, mechVals, mechVal_toStr ha hsa h0.1 (h4.imp id (·.1)), mechVal_toStr hb hsb h0.2 (h4.imp id (·.2)), mechV]
    · cases hz
  · next x y hn =>
    obtain ⟨a, b, rfl, ha, hb⟩ := valSpecArgs_two hargs
    simp [shapeAt] at h0
    simp [attrFunctionAt, hn] at h4
    split at hz
    · next sa sb hsa hsb =>
      cases hz
      simp [hn, mechVals, mechVal_toStr ha hsa h0.1 (h4.imp id (·.1)), mechVal_toStr hb hsb h0.2 (h4.imp id (·.2)), mechV]
    · cases hz
  · cases hz

/-- all the per-node conditions of `PredSafe`, at every subexpression -/
def SubSafe (root : PTree) (env : NsEnv) (c : Ctx) (e : Expr) : Prop :=
  allSub shapeAt e = true ∧ allSub (attrCompareAt root env c) e = true ∧
  allSub (attrBooleanAt root env c) e = true ∧ allSub (attrFunctionAt root c) e = true ∧
  allSub (andOrAt root env c) e = true ∧ allSub (boolCompareAt root env c) e = true

def SubSafeArgs (root : PTree) (env : NsEnv) (c : Ctx) (as : List Expr) : Prop :=
  allSubArgs shapeAt as = true ∧ allSubArgs (attrCompareAt root env c) as = true ∧
  allSubArgs (attrBooleanAt root env c) as = true ∧ allSubArgs (attrFunctionAt root c) as = true ∧
  allSubArgs (andOrAt root env c) as = true ∧ allSubArgs (boolCompareAt root env c) as = true

mutual
  theorem evalExpr_mechVal (root : PTree) (env : NsEnv) (c : Ctx) :
      (e : Expr) → (x : XVal) → SubSafe root env c e → valSpec root env c e = some x →
      evalExpr root env c e = .ok (mechVal (isTagNode root c.node) e x)
    | .num n, x, _, h => by
      simp only [valSpec, Option.some.injEq] at h; subst h
      simp [evalExpr, mechVal, isHasAttr, mechV]
    | .str s, x, _, h => by
      simp only [valSpec, Option.some.injEq] at h; subst h
      simp [evalExpr, mechVal, isHasAttr, mechV]
    | .hasAttr p n, x, _, h => by
      obtain ⟨a, ha, rfl⟩ := Option.map_eq_some_iff.1 (by simpa only [valSpec] using h)
      exact (evalExpr_attr root env c p n a ha).1
    | .attrVal p n, x, _, h => by
      obtain ⟨a, ha, rfl⟩ := Option.map_eq_some_iff.1 (by simpa only [valSpec] using h)
      exact (evalExpr_attr root env c p n a ha).2
    | .binop op l r, z, hs, h => by
      obtain ⟨s0, s1, s2, s4, s5, s6⟩ := hs
      simp only [allSub, Bool.and_eq_true] at s0 s1 s2 s4 s5 s6
      simp only [valSpec] at h
      split at h
      · next x y hl hr =>
        have el := evalExpr_mechVal root env c l x ⟨s0.1.2, s1.1.2, s2.1.2, s4.1.2, s5.1.2, s6.1.2⟩ hl
        have er := evalExpr_mechVal root env c r y ⟨s0.2, s1.2, s2.2, s4.2, s5.2, s6.2⟩ hr
        rw [evalExpr, el, er]
        exact binop_mechVal root env c op l r x y z hl hr h s0.1.1 s1.1.1 s5.1.1 s6.1.1
      · cases h
    | .func name args, z, hs, h => by
      obtain ⟨s0, s1, s2, s4, s5, s6⟩ := hs
      simp only [allSub, Bool.and_eq_true] at s0 s1 s2 s4 s5 s6
      simp only [valSpec] at h
      split at h
      · next xs hxs =>
        have ea := evalArgs_mechVals root env c args xs ⟨s0.2, s1.2, s2.2, s4.2, s5.2, s6.2⟩ hxs
        exact func_mechVal root env c name args xs z hxs ea h s0.1 s2.1 s4.1
      · cases h
  theorem evalArgs_mechVals (root : PTree) (env : NsEnv) (c : Ctx) :
      (as : List Expr) → (xs : List XVal) → SubSafeArgs root env c as → valSpecArgs root env c as = some xs →
      evalArgs root env c as = .ok (mechVals (isTagNode root c.node) as xs)
    | [], xs, _, h => by
      simp only [valSpecArgs, Option.some.injEq] at h; subst h
      simp [evalArgs, mechVals]
    | a :: as, xs, hs, h => by
      obtain ⟨s0, s1, s2, s4, s5, s6⟩ := hs
      simp only [allSubArgs, Bool.and_eq_true] at s0 s1 s2 s4 s5 s6
      simp only [valSpecArgs] at h
      split at h
      · next x xs' hx hxs =>
        simp only [Option.some.injEq] at h; subst h
        have e1 := evalExpr_mechVal root env c a x ⟨s0.1, s1.1, s2.1, s4.1, s5.1, s6.1⟩ hx
        have e2 := evalArgs_mechVals root env c as xs' ⟨s0.2, s1.2, s2.2, s4.2, s5.2, s6.2⟩ hxs
        simp only [evalArgs, e1, e2, mechVals]
      · cases h
end

theorem evalExpr_truthy_of_predSafe (root : PTree) (env : NsEnv) (c : Ctx) (e : Expr) (b : Bool)
    (hs : PredSafe root env c e) (hb : predSpec root env c e = some b) :
    ∃ v, evalExpr root env c e = .ok v ∧ truthy v = b := by
  have hnum := hs.numberPred
  unfold predSpec at hb
  unfold numberPredOk at hnum
  cases hx : valSpec root env c e with
  | none => simp [hx] at hb
  | some x =>
    refine ⟨_, evalExpr_mechVal root env c e x
      ⟨hs.shape, hs.attrCompare, hs.attrBoolean, hs.attrFunction, hs.andOr, hs.boolCompare⟩ hx, ?_⟩
    rw [truthy_mechVal fun hn => isHasAttr_of_nodes hx hn hs.shapeTop]
    rw [hx] at hb hnum
    cases x with
    | num n => cases hnum
    | _ => exact Option.some.inj hb

theorem predHolds_eq_xpath1 (root : PTree) (env : NsEnv) (pred : Expr) (n : XNode) (pos size : Nat)
    (hs : PredSafe root env { node := n, position := pos, size := size } pred)
    (hd : (predSpec root env { node := n, position := pos, size := size } pred).isSome = true) :
    predHolds root env pred n pos size = predHoldsXPath1 root env pred n pos size := by
  obtain ⟨b, hb⟩ := Option.isSome_iff_exists.1 hd
  obtain ⟨v, hv, ht⟩ := evalExpr_truthy_of_predSafe root env _ pred b hs hb
  simp [predHolds, predHoldsXPath1, hv, hb, ht]

theorem predFilter_eq_xpath1 (root : PTree) (env : NsEnv) (pred : Expr) (l : List XNode)
    (h : ∀ n ∈ l, ∀ pos, predHolds root env pred n pos l.length = predHoldsXPath1 root env pred n pos l.length) :
    predFilter root env pred l = predFilterXPath1 root env pred l := by
  unfold predFilter predFilterXPath1
  exact congrArg _ (List.filter_congr fun ni hni => h ni.1 (List.fst_mem_of_mem_zipIdx hni) ni.2)

theorem predFold_eq_xpath1 (root : PTree) (env : NsEnv) (ps : List Expr) (cands l : List XNode)
    (hl : l.Sublist cands)
    (h : ∀ pred ∈ ps, ∀ n ∈ cands, ∀ pos size,
      PredSafe root env { node := n, position := pos, size := size } pred ∧
      (predSpec root env { node := n, position := pos, size := size } pred).isSome = true) :
    ps.foldl (fun cur pred => predFilter root env pred cur) l =
      ps.foldl (fun cur pred => predFilterXPath1 root env pred cur) l := by
  induction ps generalizing l with
  | nil => rfl
  | cons p ps ih =>
    have e : predFilter root env p l = predFilterXPath1 root env p l :=
      predFilter_eq_xpath1 root env p l fun n hn pos =>
        have hp := h p List.mem_cons_self n (hl.subset hn) pos l.length
        predHolds_eq_xpath1 root env p n pos l.length hp.1 hp.2
    rw [List.foldl_cons, List.foldl_cons, ← e]
    exact ih _ ((predFilter_sublist root env p l).trans hl) fun q hq => h q (List.mem_cons_of_mem _ hq)

theorem stepDenote_eq_xpath1 (root : PTree) (env : NsEnv) (s : Step) (ctx : XNode)
    (h : ∀ pred ∈ s.preds, ∀ n ∈ (axisDenote root s.axis ctx).filter (testDenote root env s.test), ∀ pos size,
      PredSafe root env { node := n, position := pos, size := size } pred ∧
      (predSpec root env { node := n, position := pos, size := size } pred).isSome = true) :
    stepDenote root env s ctx = stepDenoteXPath1 root env s ctx :=
  predFold_eq_xpath1 root env s.preds _ _ (List.Sublist.refl _) h

end Delb.XPath
