import DelbModel.Model.XPath.Spec
import DelbModel.Lemmas.XPathEval.Steps
/-!
# C06: the mechanism model (`Eval.lean`) against the specification (`Spec.lean`)

Node tests, predicates, steps, paths and `in_document_order()` against their denotations; then when nothing raises
(`StepSafe`, `DocTypeOk`): paths that stay inside the tree (`stepAvoidsDoc`) never visit the root node, so every step
of theirs is safe.
-/
namespace Delb.XPath
open Delb.Edit Delb.Nav

variable (root : PTree) (env : NsEnv)

theorem nsOk_eq (ns : String) (wanted : Option String) :
    (match wanted with
     | none => ns.isEmpty
     | some w => if w.isEmpty then ns.isEmpty else ns == w) = (ns == wanted.getD "") := by
  have e : ns.isEmpty = (ns == "") := by
    rw [Bool.eq_iff_iff, String.isEmpty_iff, beq_iff_eq]
  cases wanted with
  | none => simpa using e
  | some w =>
    by_cases hw : w.isEmpty = true
    · have : w = "" := String.isEmpty_iff.1 hw
      subst this
      simpa using e
    · simp [hw]

/-- the root node under a node type test: the one place where mechanism and specification differ -/
def docTyped : NodeTest → XNode → Bool
  | .type _, .doc => true
  | _, _ => false

theorem nodeTest_eq (t : NodeTest) (n : XNode)
    (hp : checkPrefix env (testPrefix t) = .ok ()) (hpi : ∀ tg, t = .pi tg → n ≠ .doc) :
    nodeTest root env t n = .ok (docTyped t n || testDenote root env t n) := by
  cases t with
  | anyName pfx =>
    simp only [testPrefix] at hp
    simp only [nodeTest, hp, testDenote, docTyped, Bool.false_or]
    cases hn : nodeOf root n with
    | none => rfl
    | some t =>
      cases t <;> try rfl
      cases pfx with
      | none => rfl
      | some p => by_cases h : p.isEmpty = true <;> simp [h]
  | name pfx local_ =>
    simp only [testPrefix] at hp
    simp only [nodeTest, hp, testDenote, docTyped, Bool.false_or]
    cases hn : nodeOf root n with
    | none => rfl
    | some t =>
      cases t <;> try rfl
      cases pfx <;> exact congrArg (fun b => Except.ok (b && _)) (nsOk_eq _ _)
  | type ty =>
    cases n with
    | doc => rfl
    | «at» p =>
      simp only [nodeTest, testDenote, docTyped, Bool.false_or]
      split <;> simp only [*]
  | pi target =>
    cases n with
    | doc => exact absurd rfl (hpi target rfl)
    | «at» p =>
      simp only [nodeTest, testDenote, docTyped, Bool.false_or]
      split <;> simp only [*]

theorem nodeTest_ok_inv {root : PTree} {env : NsEnv} {t : NodeTest} {n : XNode} {b : Bool}
    (h : nodeTest root env t n = .ok b) :
    checkPrefix env (testPrefix t) = .ok () ∧ ∀ tg, t = .pi tg → n ≠ .doc := by
  cases t with
  | anyName pfx | name pfx _ =>
    refine ⟨?_, fun _ h => nomatch h⟩
    cases hc : checkPrefix env pfx with
    | error e => simp [nodeTest, hc] at h
    | ok u => exact hc
  | type ty => exact ⟨rfl, fun _ h => nomatch h⟩
  | pi tg =>
    refine ⟨rfl, fun _ _ hn => ?_⟩
    subst hn
    cases h

theorem nodeTest_eq_denote (t : NodeTest) (n : XNode) (b : Bool)
    (hd : ∀ ty, t = .type ty → ty ≠ "TagNode" → n ≠ .doc)
    (h : nodeTest root env t n = .ok b) : b = testDenote root env t n := by
  obtain ⟨hp, hpi⟩ := nodeTest_ok_inv h
  rw [nodeTest_eq root env t n hp hpi, Except.ok.injEq] at h
  subst h
  cases t with
  | type ty =>
    cases n with
    | doc =>
      by_cases hty : ty = "TagNode"
      · subst hty; rfl
      · exact absurd rfl (hd ty rfl hty)
    | «at» p => rfl
  | _ => rfl

theorem mem_axisDenote (axis : String) (ctx n : XNode) :
    n ∈ axisDenote root axis ctx ↔ (n ∈ docNodes root ∧ axisRel axis ctx n = true) := by
  unfold axisDenote axisOrder
  split <;> simp [List.mem_filter]

theorem filterTest_eq_filter (t : NodeTest) (l r : List XNode)
    (hd : ∀ n ∈ l, ∀ ty, t = .type ty → ty ≠ "TagNode" → n ≠ .doc)
    (h : filterTest root env t l = .ok r) : r = l.filter (testDenote root env t) := by
  obtain ⟨h1, rfl⟩ := filterTest_ok_inv h
  exact List.filter_congr fun n hn => nodeTest_eq_denote root env t n _ (hd n hn) (h1 n hn)

theorem doc_not_mem_axisDenote {axis : String} {ctx : XNode} (h : axisRel axis ctx .doc = false) :
    XNode.doc ∉ axisDenote root axis ctx := fun hn => by
  rw [((mem_axisDenote root axis ctx .doc).1 hn).2] at h
  cases h

theorem docTypeOk_axis (s : Step) (ctx : XNode) (hd : DocTypeOk s ctx) :
    ∀ n ∈ axisDenote root s.axis ctx, ∀ ty, s.test = .type ty → ty ≠ "TagNode" → n ≠ .doc := by
  intro n hn ty hty hne e
  subst e
  exact doc_not_mem_axisDenote root (hd ty hty hne) hn

/-- `LocationStep._evaluate(node)` returns the specification's node list -/
theorem evalStepAt_eq_denote (s : Step) (ctx : XNode) (r : List XNode)
    (hctx : ctx ∈ docNodes root) (hd : DocTypeOk s ctx) (h : evalStepAt root env s ctx = .ok r) :
    r = stepDenote root env s ctx := by
  cases ha : axisNodes root s.axis ctx with
  | error e => simp [evalStepAt, ha] at h
  | ok axis =>
    obtain ⟨cands, hc, hp⟩ := evalStepAt_spec root env s ctx axis r ha h
    have hax := axisNodes_eq_denote root s.axis ctx axis hctx ha
    subst hax
    have hc' := filterTest_eq_filter root env s.test _ cands (docTypeOk_axis root s ctx hd) hc
    subst hc'
    exact applyPreds_eq root env s.preds _ r hp

theorem stepDenote_sublist (s : Step) (ctx : XNode) :
    (stepDenote root env s ctx).Sublist (axisDenote root s.axis ctx) :=
  (predFold_sublist root env s.preds _).trans List.filter_sublist

theorem stepDenote_subset_docNodes (s : Step) (ctx n : XNode)
    (h : n ∈ stepDenote root env s ctx) : n ∈ docNodes root :=
  ((mem_axisDenote root s.axis ctx n).1 ((stepDenote_sublist root env s ctx).subset h)).1

theorem axisDenote_nodup (axis : String) (ctx : XNode) : (axisDenote root axis ctx).Nodup := by
  unfold axisDenote axisOrder
  split
  · exact nodup_reverse_iff.2 (List.filter_sublist.nodup (docNodes_nodup root))
  · exact List.filter_sublist.nodup (docNodes_nodup root)

theorem stepDenote_nodup (s : Step) (ctx : XNode) :
    (stepDenote root env s ctx).Nodup :=
  (stepDenote_sublist root env s ctx).nodup (axisDenote_nodup root s.axis ctx)

theorem selects_nil_iff (c n : XNode) : Selects root env [] c n ↔ n = c := by
  constructor
  · intro h; cases h; rfl
  · rintro rfl; exact .nil _

theorem selects_cons_iff (s : Step) (ss : List Step) (c n : XNode) :
    Selects root env (s :: ss) c n ↔ ∃ m ∈ stepDenote root env s c, Selects root env ss m n := by
  constructor
  · intro h; cases h with | cons h1 h2 => exact ⟨_, h1, h2⟩
  · rintro ⟨m, h1, h2⟩; exact .cons h1 h2

theorem mem_stepsDenote (ss : List Step) (ns : List XNode) (n : XNode) :
    n ∈ stepsDenote root env ss ns ↔ ∃ c ∈ ns, Selects root env ss c n := by
  induction ss generalizing ns with
  | nil => simp [stepsDenote, selects_nil_iff]
  | cons s ss ih =>
    rw [stepsDenote, ih]
    simp only [List.mem_flatMap, selects_cons_iff]
    constructor
    · rintro ⟨m, ⟨c, hc, hm⟩, hs⟩; exact ⟨c, hc, m, hm, hs⟩
    · rintro ⟨c, hc, m, hm, hs⟩; exact ⟨m, ⟨c, hc, hm⟩, hs⟩

theorem mem_pathDenote (ctx : List Nat) (p : Path) (n : XNode) :
    n ∈ pathDenote root env ctx p ↔ Selects root env p.steps (pathStart ctx p) n := by
  simp [pathDenote, mem_stepsDenote]

theorem mem_exprDenote (ctx : List Nat) (x : XExpr) (n : XNode) :
    n ∈ exprDenote root env ctx x ↔ ∃ p ∈ x, Selects root env p.steps (pathStart ctx p) n := by
  simp [exprDenote, mem_pathDenote]

theorem selects_subset_docNodes (ss : List Step) (c n : XNode)
    (hc : c ∈ docNodes root) (h : Selects root env ss c n) : n ∈ docNodes root := by
  induction h with
  | nil c => exact hc
  | cons h1 _ ih => exact ih (stepDenote_subset_docNodes root env _ _ _ h1)

theorem evalStep_eq_denote (s : Step) (ns r : List XNode)
    (hv : ∀ c ∈ ns, c ∈ docNodes root) (hd : ∀ c ∈ ns, DocTypeOk s c)
    (h : evalStep root env s [] ns = .ok r) :
    (∀ m, m ∈ r ↔ ∃ c ∈ ns, m ∈ stepDenote root env s c) ∧ r.Nodup := by
  obtain ⟨hn, hok, hm⟩ := evalStep_spec root env s [] ns r h
  refine ⟨fun m => ?_, hn List.nodup_nil⟩
  rw [hm m]
  simp only [List.not_mem_nil, false_or]
  constructor
  · rintro ⟨c, hc, l, hl, hml⟩
    exact ⟨c, hc, by rw [← evalStepAt_eq_denote root env s c l (hv c hc) (hd c hc) hl]; exact hml⟩
  · rintro ⟨c, hc, hmc⟩
    obtain ⟨l, hl⟩ := hok c hc
    exact ⟨c, hc, l, hl, by rw [evalStepAt_eq_denote root env s c l (hv c hc) (hd c hc) hl]; exact hmc⟩

theorem evalSteps_eq_denote (ss : List Step) (ns r : List XNode)
    (hv : ∀ c ∈ ns, c ∈ docNodes root)
    (hd : ∀ c ∈ ns, ∀ s c', Visits root env ss c s c' → DocTypeOk s c')
    (h : evalSteps root env ss ns = .ok r) :
    (∀ n, n ∈ r ↔ ∃ c ∈ ns, Selects root env ss c n) ∧ (ns.Nodup → r.Nodup) := by
  induction ss generalizing ns with
  | nil =>
    simp only [evalSteps, Except.ok.injEq] at h
    subst h
    exact ⟨fun n => by simp [selects_nil_iff], id⟩
  | cons s ss ih =>
    simp only [evalSteps] at h
    split at h
    · cases h
    · rename_i r1 h1
      obtain ⟨hm1, hn1⟩ := evalStep_eq_denote root env s ns r1 hv (fun c hc => hd c hc s c .here) h1
      have hv1 : ∀ m ∈ r1, m ∈ docNodes root := by
        intro m hm
        obtain ⟨c, _, hmc⟩ := (hm1 m).1 hm
        exact stepDenote_subset_docNodes root env s c m hmc
      have hd1 : ∀ m ∈ r1, ∀ s' c', Visits root env ss m s' c' → DocTypeOk s' c' := by
        intro m hm s' c' hvis
        obtain ⟨c, hc, hmc⟩ := (hm1 m).1 hm
        exact hd c hc s' c' (.there hmc hvis)
      obtain ⟨hm2, hn2⟩ := ih r1 hv1 hd1 h
      refine ⟨fun n => ?_, fun _ => hn2 hn1⟩
      rw [hm2 n, ← mem_stepsDenote root env (s :: ss), stepsDenote, mem_stepsDenote]
      simp only [hm1, List.mem_flatMap]

theorem pathStart_mem_docNodes (ctx : List Nat) (p : Path) (hctx : ctx ∈ docOrder root) :
    pathStart ctx p ∈ docNodes root := by
  unfold pathStart
  split
  · exact doc_mem_docNodes root
  · exact (at_mem_docNodes root ctx).2 hctx

theorem evalPath_eq_denote (ctx : List Nat) (p : Path) (r : List XNode)
    (hctx : ctx ∈ docOrder root)
    (hd : ∀ s c, Visits root env p.steps (pathStart ctx p) s c → DocTypeOk s c)
    (h : evalPath root env ctx p = .ok r) :
    (∀ n, n ∈ r ↔ n ∈ pathDenote root env ctx p) ∧ r.Nodup := by
  have h' : evalSteps root env p.steps [pathStart ctx p] = .ok r := h
  obtain ⟨hm, hn⟩ := evalSteps_eq_denote root env p.steps [pathStart ctx p] r
    (fun c hc => by rw [List.mem_singleton] at hc; subst hc; exact pathStart_mem_docNodes root ctx p hctx)
    (fun c hc => by rw [List.mem_singleton] at hc; subst hc; exact hd) h'
  refine ⟨fun n => ?_, hn (by simp)⟩
  rw [hm n, mem_pathDenote]
  simp

theorem evaluate_eq_denote (ctx : List Nat) (x : XExpr) (r : List XNode)
    (hctx : ctx ∈ docOrder root)
    (hd : ∀ p ∈ x, ∀ s c, Visits root env p.steps (pathStart ctx p) s c → DocTypeOk s c)
    (h : evaluate root env ctx x = .ok r) :
    (∀ n, n ∈ r ↔ n ∈ exprDenote root env ctx x) ∧ r.Nodup ∧ XNode.doc ∉ r := by
  obtain ⟨hn, hdoc, hok, hm⟩ := evalPaths_spec root env ctx [] x r h
  refine ⟨fun n => ?_, hn List.nodup_nil, hdoc (by simp)⟩
  rw [hm n]
  simp only [List.not_mem_nil, false_or, exprDenote, List.mem_flatMap]
  constructor
  · rintro ⟨p, hp, l, hl, hnl⟩
    exact ⟨p, hp, ((evalPath_eq_denote root env ctx p l hctx (hd p hp) hl).1 n).1 hnl⟩
  · rintro ⟨p, hp, hnp⟩
    obtain ⟨l, hl, _⟩ := hok p hp
    exact ⟨p, hp, l, hl, ((evalPath_eq_denote root env ctx p l hctx (hd p hp) hl).1 n).2 hnp⟩

theorem mem_addrsOf (l : List XNode) (p : List Nat) : p ∈ addrsOf l ↔ XNode.at p ∈ l := by
  unfold addrsOf
  rw [List.mem_filterMap]
  constructor
  · rintro ⟨n, hn, h⟩
    cases n with
    | doc => simp at h
    | «at» q => simp only [Option.some.injEq] at h; subst h; exact hn
  · intro h; exact ⟨_, h, rfl⟩

theorem mem_exprDenote_docNodes (ctx : List Nat) (x : XExpr) (n : XNode)
    (hctx : ctx ∈ docOrder root) (h : n ∈ exprDenote root env ctx x) : n ∈ docNodes root := by
  obtain ⟨p, _, hs⟩ := (mem_exprDenote root env ctx x n).1 h
  exact selects_subset_docNodes root env p.steps _ n (pathStart_mem_docNodes root ctx p hctx) hs

theorem sortPaths_eq_denoteSorted (ctx : List Nat) (x : XExpr) (r : List XNode)
    (hctx : ctx ∈ docOrder root) (hm : ∀ n, n ∈ r ↔ n ∈ exprDenote root env ctx x) :
    sortPaths (addrsOf r) = exprDenoteSorted root env ctx x := by
  obtain ⟨h1, h2⟩ := sortPaths_spec (addrsOf r)
  refine sorted_ext pathLt_irrefl pathLt_asymm h2 ((docOrder_sorted root).sublist List.filter_sublist) (fun p => ?_)
  rw [h1, mem_addrsOf, hm]
  unfold exprDenoteSorted
  rw [List.mem_filter, List.contains_iff_mem]
  constructor
  · intro h
    exact ⟨(at_mem_docNodes root p).1 (mem_exprDenote_docNodes root env ctx x _ hctx h), h⟩
  · exact fun h => h.2

theorem axisNodes_ok (axis : String) (c : XNode) (hax : axis ∈ realAxes)
    (hdoc : c = .doc → axis ∈ docAxes) : ∃ l, axisNodes root axis c = .ok l := by
  cases c with
  | doc =>
    have := hdoc rfl
    simp only [docAxes, List.mem_cons, List.not_mem_nil, or_false] at this
    rcases this with rfl | rfl | rfl | rfl <;> exact ⟨_, by rw [axisNodes]⟩
  | «at» p =>
    simp only [realAxes, List.mem_cons, List.not_mem_nil, or_false] at hax
    rcases hax with rfl | rfl | rfl | rfl | rfl | rfl | rfl | rfl | rfl | rfl | rfl <;> exact ⟨_, by rw [axisNodes]⟩

theorem filterPred_ok (pred : Expr) (size pos : Nat) (l : List XNode)
    (h : ∀ n ∈ l, ∀ pos, ∃ v, evalExpr root env { node := n, position := pos, size := size } pred = .ok v) :
    ∃ r, filterPred root env pred size pos l = .ok r := by
  induction l generalizing pos with
  | nil => exact ⟨_, rfl⟩
  | cons n rest ih =>
    obtain ⟨v, hv⟩ := h n (by simp) pos
    obtain ⟨r, hr⟩ := ih (pos + 1) (fun m hm => h m (List.mem_cons_of_mem _ hm))
    exact ⟨if truthy v then n :: r else r, by simp only [filterPred, hv, hr]⟩

theorem applyPreds_ok (ps : List Expr) (l : List XNode)
    (h : ∀ pred ∈ ps, ∀ n ∈ l, ∀ pos size, ∃ v, evalExpr root env { node := n, position := pos, size := size } pred = .ok v) :
    ∃ r, applyPreds root env ps l = .ok r := by
  induction ps generalizing l with
  | nil => exact ⟨_, rfl⟩
  | cons p ps ih =>
    obtain ⟨next, hn⟩ := filterPred_ok root env p l.length 1 l (fun n hn pos => h p (by simp) n hn pos l.length)
    have hs := filterPred_sublist root env p _ _ l next hn
    obtain ⟨r, hr⟩ := ih next (fun q hq n hn pos size => h q (List.mem_cons_of_mem _ hq) n (hs.subset hn) pos size)
    exact ⟨r, by simp only [applyPreds, hn, hr]⟩

theorem evalStepAt_ok (s : Step) (c : XNode) (hc : c ∈ docNodes root)
    (hs : StepSafe root env s c) (hd : DocTypeOk s c) : ∃ r, evalStepAt root env s c = .ok r := by
  obtain ⟨hax, hdoc, hpfx, hpi, hpreds⟩ := hs
  obtain ⟨axis, ha⟩ := axisNodes_ok root s.axis c hax hdoc
  have hax' := axisNodes_eq_denote root s.axis c axis hc ha
  subst hax'
  obtain ⟨cands, hcands⟩ := filterTest_ok root env s.test (axisDenote root s.axis c) (fun n hn =>
    ⟨_, nodeTest_eq root env s.test n hpfx fun tg htg e => doc_not_mem_axisDenote root (hpi tg htg) (e ▸ hn)⟩)
  have hc' := filterTest_eq_filter root env s.test _ cands (docTypeOk_axis root s c hd) hcands
  obtain ⟨r, hr⟩ := applyPreds_ok root env s.preds cands (fun pred hp n hn pos size => by
    rw [hc', List.mem_filter] at hn
    exact hpreds pred hp n pos size hn.1 hn.2)
  exact ⟨r, by simp only [evalStepAt, ha, hcands, hr]⟩

theorem evalSteps_ok (ss : List Step) (ns : List XNode)
    (hv : ∀ c ∈ ns, c ∈ docNodes root)
    (hs : ∀ c ∈ ns, ∀ s c', Visits root env ss c s c' → (StepSafe root env s c' ∧ DocTypeOk s c')) :
    ∃ r, evalSteps root env ss ns = .ok r := by
  induction ss generalizing ns with
  | nil => exact ⟨_, rfl⟩
  | cons s ss ih =>
    obtain ⟨r1, h1⟩ := evalStep_ok root env s [] ns (fun c hc =>
      evalStepAt_ok root env s c (hv c hc) (hs c hc s c .here).1 (hs c hc s c .here).2)
    obtain ⟨hm1, _⟩ := evalStep_eq_denote root env s ns r1 hv (fun c hc => (hs c hc s c .here).2) h1
    obtain ⟨r, hr⟩ := ih r1
      (fun m hm => by
        obtain ⟨c, _, hmc⟩ := (hm1 m).1 hm
        exact stepDenote_subset_docNodes root env s c m hmc)
      (fun m hm s' c' hvis => by
        obtain ⟨c, hc, hmc⟩ := (hm1 m).1 hm
        exact hs c hc s' c' (.there hmc hvis))
    exact ⟨r, by simp only [evalSteps, h1, hr]⟩

theorem evalPaths_doc_error (root : PTree) (env : NsEnv) (ctx : List Nat) (acc : List XNode) (ps : List Path)
    (p : Path) (l : List XNode) (hp : p ∈ ps) (hl : evalPath root env ctx p = .ok l) (hdoc : XNode.doc ∈ l) :
    ∃ e, evalPaths root env ctx acc ps = .error e := by
  induction ps generalizing acc with
  | nil => cases hp
  | cons q rest ih =>
    simp only [evalPaths]
    cases hq : evalPath root env ctx q with
    | error e => exact ⟨e, rfl⟩
    | ok lq =>
      simp only []
      by_cases hd : lq.contains XNode.doc = true
      · simp only [hd, if_true]; exact ⟨_, rfl⟩
      · simp only [hd]
        rcases List.mem_cons.1 hp with rfl | hp'
        · rw [hl] at hq; cases hq
          exact absurd (by simpa using hdoc) hd
        · exact ih _ hp'

theorem docTypeOk_of_free (s : Step) (c : XNode) (h : stepDocTypeFree s = true) : DocTypeOk s c := by
  intro ty hty hne
  cases hax : axisRel s.axis c .doc with
  | false => rfl
  | true =>
    have := (axisRel_doc s.axis c hax).1
    simp [stepDocTypeFree, hty, hne] at h
    simp_all

theorem visits_mem (ss : List Step) (c : XNode) (s : Step) (c' : XNode)
    (h : Visits root env ss c s c') : s ∈ ss := by
  induction h with
  | here => simp
  | there _ _ ih => exact List.mem_cons_of_mem _ ih

theorem testDenote_doc (t : NodeTest) (h : testDenote root env t .doc = true) :
    ∃ ty, t = .type ty := by
  cases t with
  | anyName pfx => simp [testDenote, nodeOf] at h
  | name pfx l => simp [testDenote, nodeOf] at h
  | type ty => exact ⟨ty, rfl⟩
  | pi tg => simp [testDenote, nodeOf] at h

theorem stepAvoidsDoc_axisRel (s : Step) (c : XNode) (hc : c ≠ .doc) (hs : stepAvoidsDoc s = true)
    (ht : ∀ pfx, s.test ≠ .anyName pfx) (ht' : ∀ pfx l, s.test ≠ .name pfx l) :
    axisRel s.axis c .doc = false := by
  cases hax : axisRel s.axis c .doc with
  | false => rfl
  | true =>
    have h3 := (axisRel_doc s.axis c hax).2 hc
    unfold stepAvoidsDoc at hs
    split at hs
    · rename_i pfx heq; exact absurd heq (ht pfx)
    · rename_i pfx l heq; exact absurd heq (ht' pfx l)
    · simp_all

theorem doc_not_mem_stepDenote (s : Step) (c : XNode) (hc : c ≠ .doc)
    (hs : stepAvoidsDoc s = true) : XNode.doc ∉ stepDenote root env s c := by
  intro h
  have htest : XNode.doc ∈ (axisDenote root s.axis c).filter (testDenote root env s.test) :=
    (predFold_sublist root env s.preds _).subset h
  rw [List.mem_filter] at htest
  obtain ⟨ty, hty⟩ := testDenote_doc root env s.test htest.2
  exact doc_not_mem_axisDenote root
    (stepAvoidsDoc_axisRel s c hc hs (fun pfx e => by rw [hty] at e; cases e) (fun pfx l e => by rw [hty] at e; cases e))
    htest.1

theorem visits_ne_doc (ss : List Step) (c0 : XNode) (s : Step) (c : XNode)
    (hc0 : c0 ≠ .doc) (hss : ∀ s ∈ ss, stepAvoidsDoc s = true) (h : Visits root env ss c0 s c) : c ≠ .doc := by
  induction h with
  | here => exact hc0
  | @there s1 s2 ss1 c1 m c2 hm _ ih =>
    refine ih ?_ (fun s hs => hss s (List.mem_cons_of_mem _ hs))
    intro e; subst e
    exact doc_not_mem_stepDenote root env s1 c1 hc0 (hss s1 (by simp)) hm

theorem selects_ne_doc (ss : List Step) (c0 n : XNode)
    (hc0 : c0 ≠ .doc) (hss : ∀ s ∈ ss, stepAvoidsDoc s = true) (h : Selects root env ss c0 n) : n ≠ .doc := by
  induction h with
  | nil c => exact hc0
  | @cons s1 ss1 c1 m n1 hm _ ih =>
    refine ih ?_ (fun s hs => hss s (List.mem_cons_of_mem _ hs))
    intro e; subst e
    exact doc_not_mem_stepDenote root env s1 c1 hc0 (hss s1 (by simp)) hm

theorem stepSafe_of_avoidsDoc (s : Step) (c : XNode) (hc : c ≠ .doc)
    (hax : s.axis ∈ realAxes) (hs : stepAvoidsDoc s = true)
    (hpfx : checkPrefix env (testPrefix s.test) = .ok ())
    (hpreds : ∀ pred ∈ s.preds, ∀ cx, ∃ v, evalExpr root env cx pred = .ok v) :
    StepSafe root env s c ∧ DocTypeOk s c := by
  refine ⟨⟨hax, fun e => absurd e hc, hpfx, fun t ht => ?_, fun pred hp n pos size _ _ => hpreds pred hp _⟩,
    fun ty hty _ => ?_⟩
  · exact stepAvoidsDoc_axisRel s c hc hs (fun pfx e => by rw [ht] at e; cases e) (fun pfx l e => by rw [ht] at e; cases e)
  · exact stepAvoidsDoc_axisRel s c hc hs (fun pfx e => by rw [hty] at e; cases e) (fun pfx l e => by rw [hty] at e; cases e)

end Delb.XPath
