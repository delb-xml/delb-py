import DelbModel.Model.XPath.Spec
import DelbModel.Lemmas.XPathEval.DocOrder
/-!
# C06: the axes

The generators one by one (members, order), document order on nodes, and then for every row of
`axisNodes` at once (`axisNodes_spec`): the list is strictly sorted in proximity order and holds the
nodes of the document that `axisRel` relates to the context node.  Two strictly sorted
lists with the same members are equal, so every generator yields `axisDenote` (`axisNodes_eq_denote`).
-/
namespace Delb.XPath
open Delb.Edit Delb.Nav

variable (root : PTree)

theorem isPrefix_iff (p q : List Nat) : isPrefix p q = true ↔ p <+: q := by
  simp [isPrefix]

theorem lt_kidsCount_iff (p : List Nat) (i : Nat) :
    i < kidsCount root p ↔ (getAtP root (p ++ [i])).isSome := by
  rw [getAtP_append]
  unfold kidsCount
  cases h : getAtP root p with
  | none => simp
  | some t =>
    simp only [Option.bind_some, getAtP_single]
    simp

theorem mem_descendantPaths (p q : List Nat) :
    q ∈ descendantPaths root p ↔ (p <+: q ∧ q ≠ p ∧ (getAtP root q).isSome) := by
  unfold descendantPaths
  rw [List.mem_filter, mem_docOrder, Bool.and_eq_true, isPrefix_iff]
  simp only [bne_iff_ne, ne_eq]
  constructor
  · rintro ⟨h1, h2, h3⟩; exact ⟨h2, h3, h1⟩
  · rintro ⟨h1, h2, h3⟩; exact ⟨h3, h1, h2⟩

theorem descendantPaths_sublist (p : List Nat) :
    (descendantPaths root p).Sublist (docOrder root) := List.filter_sublist

theorem mem_ancestorPaths (p q : List Nat) : q ∈ ancestorPaths p ↔ (q <+: p ∧ q ≠ p) := by
  unfold ancestorPaths
  rw [List.mem_map]
  constructor
  · rintro ⟨k, hk, rfl⟩
    rw [mem_downFrom] at hk
    refine ⟨List.take_prefix k p, fun h => ?_⟩
    have := congrArg List.length h
    rw [List.length_take] at this
    omega
  · rintro ⟨hq, hne⟩
    refine ⟨q.length, ?_, (List.prefix_iff_eq_take.1 hq).symm⟩
    rw [mem_downFrom]
    have hle := hq.length_le
    rcases Nat.lt_or_ge q.length p.length with h | h
    · exact h
    · exact absurd (hq.eq_of_length (by omega)) hne

theorem ancestorPaths_lengths (p : List Nat) :
    (ancestorPaths p).map List.length = (List.range p.length).reverse := by
  unfold ancestorPaths
  rw [List.map_map]
  show (downFrom p.length).map _ = downFrom p.length
  conv => rhs; rw [← List.map_id (downFrom p.length)]
  apply List.map_congr_left
  intro k hk
  rw [mem_downFrom] at hk
  simp only [Function.comp, List.length_take, id]
  omega

theorem ancestorPaths_reverse_sorted (p : List Nat) :
    (ancestorPaths p).reverse.Pairwise (fun a b => pathLt a b = true) := by
  have e : (ancestorPaths p).reverse = (List.range p.length).map (fun k => p.take k) := by
    simp [ancestorPaths, downFrom, List.map_reverse]
  rw [e, List.pairwise_map]
  refine List.Pairwise.imp_of_mem ?_ (List.pairwise_lt_range (n := p.length))
  intro a b ha hb hab
  rw [List.mem_range] at ha hb
  refine pathLt_of_prefix (List.take_prefix_take_left (by omega)) (fun e => ?_)
  have := congrArg List.length e
  simp only [List.length_take] at this
  omega

theorem preceding_following_partition (p : List Nat) (hp : p ∈ docOrder root) :
    (precedingPaths root p).reverse ++ p :: followingPaths root p = docOrder root := by
  unfold precedingPaths followingPaths
  rw [List.reverse_reverse]
  exact takeWhile_dropWhile_mem _ p hp

theorem followingPaths_sublist (p : List Nat) :
    (followingPaths root p).Sublist (docOrder root) :=
  (List.drop_sublist _ _).trans (List.dropWhile_sublist _)

theorem precedingPaths_rev_sublist (p : List Nat) :
    (precedingPaths root p).reverse.Sublist (docOrder root) := by
  unfold precedingPaths
  rw [List.reverse_reverse]
  exact List.takeWhile_sublist _

theorem mem_following_preceding (p : List Nat) (hp : p ∈ docOrder root) (q : List Nat) :
    (q ∈ followingPaths root p ↔ (q ∈ docOrder root ∧ pathLt p q = true)) ∧
    (q ∈ precedingPaths root p ↔ (q ∈ docOrder root ∧ pathLt q p = true)) := by
  have hpart := preceding_following_partition root p hp
  have hs := docOrder_sorted root
  rw [← hpart, List.pairwise_append] at hs
  obtain ⟨_, h2, h3⟩ := hs
  rw [List.pairwise_cons] at h2
  have hmem : q ∈ docOrder root ↔ (q ∈ precedingPaths root p ∨ q = p ∨ q ∈ followingPaths root p) := by
    rw [← hpart]; simp
  constructor
  · constructor
    · intro hq; exact ⟨hmem.2 (.inr (.inr hq)), h2.1 q hq⟩
    · rintro ⟨hq, hlt⟩
      rcases hmem.1 hq with h | rfl | h
      · have := h3 q (List.mem_reverse.2 h) p (by simp)
        rw [pathLt_asymm hlt] at this; cases this
      · rw [pathLt_irrefl] at hlt; cases hlt
      · exact h
  · constructor
    · intro hq; exact ⟨hmem.2 (.inl hq), h3 q (List.mem_reverse.2 hq) p (by simp)⟩
    · rintro ⟨hq, hlt⟩
      rcases hmem.1 hq with h | rfl | h
      · exact h
      · rw [pathLt_irrefl] at hlt; cases hlt
      · have := h2.1 q h
        rw [pathLt_asymm hlt] at this; cases this

theorem splitLast_nil : splitLast ([] : List Nat) = none := rfl

theorem siblingsAfter_eq (par : List Nat) (i : Nat) :
    siblingsAfter root (par ++ [i]) =
      ((List.range (kidsCount root par)).filter (· > i)).map (fun j => par ++ [j]) := by
  simp [siblingsAfter, splitLast_append]

theorem siblingsBefore_eq (par : List Nat) (i : Nat) :
    siblingsBefore root (par ++ [i]) = ((List.range i).reverse).map (fun j => par ++ [j]) := by
  simp [siblingsBefore, splitLast_append]

theorem docBefore_irrefl (a : XNode) : docBefore a a = false := by
  cases a <;> simp [docBefore, pathLt_irrefl]

theorem docBefore_trans {a b c : XNode} (h₁ : docBefore a b = true) (h₂ : docBefore b c = true) :
    docBefore a c = true := by
  cases a <;> cases b <;> cases c <;> simp_all [docBefore]
  exact pathLt_trans h₁ h₂

theorem docBefore_asymm {a b : XNode} (h : docBefore a b = true) : docBefore b a = false := by
  cases hb : docBefore b a with
  | false => rfl
  | true => have := docBefore_trans h hb; rw [docBefore_irrefl] at this; cases this

/-- strictly sorted in document order -/
abbrev DocSorted (l : List XNode) : Prop := l.Pairwise (fun a b => docBefore a b = true)

theorem DocSorted.nodup {l : List XNode} (h : DocSorted l) : l.Nodup :=
  h.imp fun h e => by subst e; rw [docBefore_irrefl] at h; cases h

theorem docSorted_map_at {l : List (List Nat)} (h : l.Pairwise (fun a b => pathLt a b = true)) :
    DocSorted (l.map XNode.at) := by
  unfold DocSorted
  rw [List.pairwise_map]
  exact h.imp (fun hab => by simpa [docBefore] using hab)

theorem docSorted_doc_cons {l : List (List Nat)} (h : l.Pairwise (fun a b => pathLt a b = true)) :
    DocSorted (XNode.doc :: l.map XNode.at) := by
  refine List.pairwise_cons.2 ⟨fun b hb => ?_, docSorted_map_at h⟩
  obtain ⟨q, _, rfl⟩ := List.mem_map.1 hb
  rfl

theorem docNodes_sorted : DocSorted (docNodes root) :=
  docSorted_doc_cons (docOrder_sorted root)

theorem docBefore_iff (a b : XNode) (ha : a ∈ docNodes root) (hb : b ∈ docNodes root) :
    docBefore a b = true ↔ ∃ l₁ l₂ l₃, docNodes root = l₁ ++ a :: l₂ ++ b :: l₃ :=
  sorted_before_iff docBefore_irrefl docBefore_asymm (docNodes_sorted root) ha hb

theorem docBefore_doc_right (c : XNode) : docBefore c .doc = false := by
  cases c <;> rfl

theorem docNodes_nodup : (docNodes root).Nodup := (docNodes_sorted root).nodup

theorem doc_mem_docNodes : XNode.doc ∈ docNodes root := by simp [docNodes]

theorem at_mem_docNodes (p : List Nat) : XNode.at p ∈ docNodes root ↔ p ∈ docOrder root := by
  simp [docNodes]

theorem eq_filter_docNodes (P : XNode → Bool) (l : List XNode) (hs : DocSorted l)
    (hm : ∀ n, n ∈ l ↔ (n ∈ docNodes root ∧ P n = true)) : l = (docNodes root).filter P := by
  refine sorted_ext docBefore_irrefl docBefore_asymm hs
    ((docNodes_sorted root).sublist List.filter_sublist) (fun n => ?_)
  rw [hm, List.mem_filter]

theorem parentOf_concat (par : List Nat) (i : Nat) : parentOf (.at (par ++ [i])) = some (.at par) := by
  simp [parentOf]

theorem parentOf_eq_some_at (n : XNode) (par : List Nat) :
    parentOf n = some (.at par) ↔ ∃ j, n = .at (par ++ [j]) := by
  cases n with
  | doc => simp [parentOf]
  | «at» q =>
    rcases eq_nil_or_snoc q with rfl | ⟨par', i, rfl⟩
    · simp [parentOf]
    · rw [parentOf_concat]
      simp only [Option.some.injEq, XNode.at.injEq]
      exact ⟨fun h => ⟨i, h ▸ rfl⟩, fun ⟨j, h⟩ => (List.append_inj' h rfl).1⟩

theorem parentOf_eq_some_doc (n : XNode) : parentOf n = some .doc ↔ n = .at [] := by
  cases n with
  | doc => simp [parentOf]
  | «at» q =>
    rcases eq_nil_or_snoc q with rfl | ⟨par', i, rfl⟩
    · simp [parentOf]
    · rw [parentOf_concat]; simp

theorem isAncestorOf_at_at (p q : List Nat) : isAncestorOf (.at p) (.at q) = true ↔ (p <+: q ∧ p ≠ q) := by
  simp [isAncestorOf]

/-- the ancestors are the parent and the parent's ancestors (§2.2) -/
theorem isAncestorOf_unfold (a n : XNode) :
    isAncestorOf a n = true ↔ (parentOf n = some a ∨ ∃ m, parentOf n = some m ∧ isAncestorOf a m = true) := by
  cases n with
  | doc => simp [isAncestorOf, parentOf]
  | «at» q =>
    rcases eq_nil_or_snoc q with rfl | ⟨par, i, rfl⟩
    · cases a with
      | doc => simp [isAncestorOf, parentOf]
      | «at» p => simp [isAncestorOf, parentOf]
    · rw [parentOf_concat]
      cases a with
      | doc => simp [isAncestorOf]
      | «at» p =>
        simp only [Option.some.injEq, XNode.at.injEq, exists_eq_left', isAncestorOf_at_at, List.prefix_concat_iff]
        constructor
        · rintro ⟨h | h, hne⟩
          · exact absurd h hne
          · by_cases e : par = p
            · exact .inl e
            · exact .inr ⟨h, fun e' => e e'.symm⟩
        · rintro (rfl | ⟨h, hne⟩)
          · exact ⟨.inr (List.prefix_refl _), fun e => by simpa using congrArg List.length e⟩
          · refine ⟨.inr h, fun e => ?_⟩
            have := h.length_le
            rw [e] at this
            simp at this
            omega

theorem axisRel_doc (axis : String) (c : XNode) (h : axisRel axis c .doc = true) :
    axis ∈ ["self", "descendant_or_self", "ancestor", "ancestor_or_self", "parent"] ∧
    (c ≠ .doc → axis ∈ ["ancestor", "ancestor_or_self", "parent"]) := by
  have hanc : isAncestorOf c .doc = false := by cases c <;> rfl
  unfold axisRel at h
  split at h
  · exact ⟨by simp, fun hc => absurd (beq_iff_eq.1 h).symm hc⟩
  · simp [parentOf] at h
  · exact ⟨by simp, fun _ => by simp⟩
  · rw [hanc] at h; cases h
  · rw [hanc, Bool.or_false] at h
    exact ⟨by simp, fun hc => absurd (beq_iff_eq.1 h).symm hc⟩
  · exact ⟨by simp, fun _ => by simp⟩
  · exact ⟨by simp, fun _ => by simp⟩
  · rw [docBefore_doc_right, Bool.and_false] at h; cases h
  · cases c with
    | doc => cases h
    | «at» p => simp only [parentOf] at h; split at h <;> simp at h
  · rw [docBefore_doc_right] at h; cases h
  · simp at h
  · cases h

theorem DocSorted.forward {axis : String} {l : List XNode} (ha : isReverseAxis axis = false)
    (h : DocSorted l) : DocSorted (axisOrder axis l) := by
  rwa [axisOrder, ha, if_neg Bool.false_ne_true]

theorem DocSorted.backward {axis : String} {l : List XNode} (ha : isReverseAxis axis = true)
    (h : DocSorted l.reverse) : DocSorted (axisOrder axis l) := by
  rwa [axisOrder, if_pos ha]

theorem DocSorted.single (axis : String) (x : XNode) : DocSorted (axisOrder axis [x]) := by
  unfold axisOrder
  split <;> exact List.pairwise_singleton _ _

theorem DocSorted.empty (axis : String) : DocSorted (axisOrder axis []) := by
  unfold axisOrder
  split <;> exact .nil

theorem docSorted_children (par : List Nat) {f : List Nat} (hf : f.Pairwise (fun a b => a < b)) :
    DocSorted (f.map (fun j => XNode.at (par ++ [j]))) := by
  unfold DocSorted
  rw [List.pairwise_map]
  exact hf.imp fun {a b} hab => (pathLt_concat par a b).2 hab

theorem docSorted_descendants (p : List Nat) : DocSorted (XNode.at p :: (descendantPaths root p).map XNode.at) := by
  refine List.pairwise_cons.2 ⟨fun n hn => ?_,
    docSorted_map_at ((docOrder_sorted root).sublist (descendantPaths_sublist root p))⟩
  obtain ⟨q, hq, rfl⟩ := List.mem_map.1 hn
  rw [mem_descendantPaths] at hq
  exact pathLt_of_prefix hq.1 (Ne.symm hq.2.1)

theorem docSorted_ancestors (p : List Nat) :
    DocSorted (XNode.at p :: (ancestorPaths p).map XNode.at ++ [XNode.doc]).reverse := by
  rw [List.reverse_append, List.reverse_singleton, List.reverse_cons, ← List.map_reverse, List.singleton_append,
    ← List.cons_append]
  refine List.pairwise_append.2 ⟨docSorted_doc_cons (ancestorPaths_reverse_sorted p), List.pairwise_singleton _ _,
    fun a ha b hb => ?_⟩
  rw [List.mem_singleton.1 hb]
  rcases List.mem_cons.1 ha with rfl | ha
  · rfl
  · obtain ⟨q, hq, rfl⟩ := List.mem_map.1 ha
    rw [List.mem_reverse, mem_ancestorPaths] at hq
    exact pathLt_of_prefix hq.1 hq.2

theorem at_mem_map_at (l : List (List Nat)) (p : List Nat) : XNode.at p ∈ l.map XNode.at ↔ p ∈ l := by
  simp

theorem at_concat_mem_docNodes (par : List Nat) (j : Nat) :
    XNode.at (par ++ [j]) ∈ docNodes root ↔ j < kidsCount root par := by
  rw [at_mem_docNodes, mem_docOrder, lt_kidsCount_iff]

theorem mem_map_child (par : List Nat) (f : List Nat) (n : XNode) :
    n ∈ f.map (fun j => XNode.at (par ++ [j])) ↔ ∃ j, n = .at (par ++ [j]) ∧ j ∈ f := by
  rw [List.mem_map]
  exact ⟨fun ⟨j, hj, e⟩ => ⟨j, e.symm, hj⟩, fun ⟨j, e, hj⟩ => ⟨j, hj, e.symm⟩⟩

theorem mem_children (par : List Nat) (n : XNode) :
    (n ∈ docNodes root ∧ parentOf n = some (.at par)) ↔ ∃ j, n = .at (par ++ [j]) ∧ j < kidsCount root par := by
  rw [parentOf_eq_some_at]
  constructor
  · rintro ⟨hn, j, rfl⟩
    exact ⟨j, rfl, (at_concat_mem_docNodes root par j).1 hn⟩
  · rintro ⟨j, rfl, hj⟩
    exact ⟨(at_concat_mem_docNodes root par j).2 hj, j, rfl⟩

theorem no_sibling_of_root (n : XNode) (b : Bool) (hb : n = .at [] → b = false) :
    (parentOf n == parentOf (.at []) && b) = false := by
  have : parentOf (.at []) = some .doc := rfl
  by_cases h : parentOf n = some .doc
  · rw [hb ((parentOf_eq_some_doc n).1 h), Bool.and_false]
  · simp [this, h]

theorem mem_later_children (par : List Nat) (i : Nat) (n : XNode) :
    n ∈ ((List.range (kidsCount root par)).filter (· > i)).map (fun j => XNode.at (par ++ [j])) ↔
      (n ∈ docNodes root ∧
        (parentOf n == parentOf (.at (par ++ [i])) && docBefore (.at (par ++ [i])) n) = true) := by
  rw [parentOf_concat, Bool.and_eq_true, beq_iff_eq, ← and_assoc, mem_children, mem_map_child]
  constructor
  · rintro ⟨j, rfl, hj⟩
    rw [List.mem_filter, List.mem_range, decide_eq_true_eq] at hj
    exact ⟨⟨j, rfl, hj.1⟩, (pathLt_concat par i j).2 hj.2⟩
  · rintro ⟨⟨j, rfl, hj⟩, hlt⟩
    exact ⟨j, rfl, List.mem_filter.2 ⟨List.mem_range.2 hj, decide_eq_true ((pathLt_concat par i j).1 hlt)⟩⟩

theorem mem_earlier_children (par : List Nat) (i : Nat) (hp : par ++ [i] ∈ docOrder root) (n : XNode) :
    n ∈ ((List.range i).reverse).map (fun j => XNode.at (par ++ [j])) ↔
      (n ∈ docNodes root ∧
        (parentOf n == parentOf (.at (par ++ [i])) && docBefore n (.at (par ++ [i]))) = true) := by
  have hi : i < kidsCount root par := by rw [lt_kidsCount_iff, ← mem_docOrder]; exact hp
  rw [parentOf_concat, Bool.and_eq_true, beq_iff_eq, ← and_assoc, mem_children, mem_map_child]
  constructor
  · rintro ⟨j, rfl, hj⟩
    rw [List.mem_reverse, List.mem_range] at hj
    exact ⟨⟨j, rfl, by omega⟩, (pathLt_concat par j i).2 hj⟩
  · rintro ⟨⟨j, rfl, _⟩, hlt⟩
    exact ⟨j, rfl, List.mem_reverse.2 (List.mem_range.2 ((pathLt_concat par j i).1 hlt))⟩

/-- an axis that consists of one node of the document -/
theorem mem_singleton_iff_of_mem {α} {a n : α} {s : List α} (ha : a ∈ s) : n ∈ [a] ↔ (n ∈ s ∧ n = a) := by
  rw [List.mem_singleton]
  exact ⟨fun e => ⟨e ▸ ha, e⟩, And.right⟩

/-- `-or-self`: the context node in front of the axis -/
theorem mem_cons_iff_of_mem {α} {c n : α} {l s : List α} {P : Prop} (hc : c ∈ s) (hl : n ∈ l ↔ (n ∈ s ∧ P)) :
    n ∈ c :: l ↔ (n ∈ s ∧ (n = c ∨ P)) := by
  rw [List.mem_cons, hl]
  exact ⟨fun h => h.elim (fun e => ⟨e ▸ hc, .inl e⟩) fun h => ⟨h.1, .inr h.2⟩,
    fun h => h.2.elim .inl fun hP => .inr ⟨h.1, hP⟩⟩

theorem mem_descendant_axis (p : List Nat) (n : XNode) :
    n ∈ (descendantPaths root p).map XNode.at ↔ (n ∈ docNodes root ∧ isAncestorOf (.at p) n = true) := by
  cases n with
  | doc => simp [isAncestorOf]
  | «at» q =>
    rw [at_mem_map_at, mem_descendantPaths, at_mem_docNodes, mem_docOrder, isAncestorOf_at_at]
    exact ⟨fun ⟨h1, h2, h3⟩ => ⟨h3, h1, Ne.symm h2⟩, fun ⟨h3, h1, h2⟩ => ⟨h1, Ne.symm h2, h3⟩⟩

theorem mem_ancestor_axis (p : List Nat) (hp : p ∈ docOrder root) (n : XNode) :
    n ∈ (ancestorPaths p).map XNode.at ++ [XNode.doc] ↔ (n ∈ docNodes root ∧ isAncestorOf n (.at p) = true) := by
  cases n with
  | doc => simp [isAncestorOf, doc_mem_docNodes]
  | «at» q =>
    rw [isAncestorOf_at_at, at_mem_docNodes]
    simp only [List.mem_append, at_mem_map_at, List.mem_singleton, reduceCtorEq, or_false, mem_ancestorPaths]
    exact ⟨fun h => ⟨mem_docOrder_of_prefix hp h.1, h⟩, fun h => h.2⟩

/-- the cases follow the rows of `axisNodes` in the order of its definition -/
theorem axisNodes_spec (axis : String) (ctx : XNode) (l : List XNode) (h : axisNodes root axis ctx = .ok l) :
    DocSorted (axisOrder axis l) ∧
    (ctx ∈ docNodes root → ∀ n, n ∈ l ↔ (n ∈ docNodes root ∧ axisRel axis ctx n = true)) := by
  unfold axisNodes at h
  split at h
  · split at h
    · cases h
      refine ⟨.single _ _, fun _ n => ?_⟩
      rw [axisRel, beq_iff_eq, parentOf_eq_some_doc]
      exact mem_singleton_iff_of_mem ((at_mem_docNodes root []).2 (nil_mem_pathsOf root))
    · cases h
      refine ⟨.forward (by decide +kernel) (docSorted_map_at (docOrder_sorted root)), fun _ n => ?_⟩
      rw [axisRel]; cases n <;> simp [isAncestorOf, docNodes]
    · cases h
      refine ⟨.forward (by decide +kernel) (docNodes_sorted root), fun _ n => ?_⟩
      rw [axisRel]; cases n <;> simp [isAncestorOf, docNodes]
    · cases h
      refine ⟨.single _ _, fun hctx n => ?_⟩
      rw [axisRel, beq_iff_eq]; exact mem_singleton_iff_of_mem hctx
    · split at h <;> cases h
  · rename_i p
    have hp (hctx : XNode.at p ∈ docNodes root) : p ∈ docOrder root := (at_mem_docNodes root p).1 hctx
    split at h
    · cases h
      refine ⟨.backward (by decide +kernel) ?_, fun hctx n => ?_⟩
      · exact (docSorted_ancestors p).sublist (List.reverse_sublist.2 (List.sublist_cons_self _ _))
      · rw [axisRel]; exact mem_ancestor_axis root p (hp hctx) n
    · cases h
      refine ⟨.backward (by decide +kernel) (docSorted_ancestors p), fun hctx n => ?_⟩
      rw [axisRel, Bool.or_eq_true, beq_iff_eq]
      exact mem_cons_iff_of_mem hctx (mem_ancestor_axis root p (hp hctx) n)
    · cases h
      refine ⟨.forward (by decide +kernel) (docSorted_children p List.pairwise_lt_range), fun _ n => ?_⟩
      rw [axisRel, beq_iff_eq, mem_children, mem_map_child]
      simp only [List.mem_range]
    · cases h
      refine ⟨.forward (by decide +kernel) (List.pairwise_cons.1 (docSorted_descendants root p)).2, fun _ n => ?_⟩
      rw [axisRel]; exact mem_descendant_axis root p n
    · cases h
      refine ⟨.forward (by decide +kernel) (docSorted_descendants root p), fun hctx n => ?_⟩
      rw [axisRel, Bool.or_eq_true, beq_iff_eq]
      exact mem_cons_iff_of_mem hctx (mem_descendant_axis root p n)
    · cases h
      refine ⟨.forward (by decide +kernel) ?_, fun hctx n => ?_⟩
      · exact docSorted_map_at ((docOrder_sorted root).sublist (followingPaths_sublist root p))
      · rw [axisRel]
        cases n with
        | doc => simp [docBefore]
        | «at» q => rw [at_mem_map_at, (mem_following_preceding root p (hp hctx) q).1, at_mem_docNodes]; rfl
    · cases h
      rcases eq_nil_or_snoc p with rfl | ⟨par, i, rfl⟩
      · refine ⟨.empty _, fun _ n => ?_⟩
        rw [axisRel, no_sibling_of_root n _ fun e => e ▸ docBefore_irrefl _]
        simp [siblingsAfter, splitLast]
      · rw [siblingsAfter_eq, List.map_map]
        refine ⟨.forward (by decide +kernel) ?_, fun _ n => ?_⟩
        · exact docSorted_children par (List.pairwise_lt_range.sublist List.filter_sublist)
        · rw [axisRel]; exact mem_later_children root par i n
    · cases h
      refine ⟨by split <;> exact .single _ _, fun hctx n => ?_⟩
      rw [axisRel, beq_iff_eq]
      rcases eq_nil_or_snoc p with rfl | ⟨par, i, rfl⟩
      · rw [show parentOf (.at []) = some .doc from rfl, Option.some.injEq, @eq_comm _ _ n]
        exact mem_singleton_iff_of_mem (doc_mem_docNodes root)
      · rw [splitLast_append, parentOf_concat, Option.some.injEq, @eq_comm _ _ n]
        exact mem_singleton_iff_of_mem
          ((at_mem_docNodes root par).2 (mem_docOrder_of_prefix (hp hctx) (List.prefix_append par [i])))
    · cases h
      refine ⟨.backward (by decide +kernel) ?_, fun hctx n => ?_⟩
      · rw [← List.map_reverse]
        exact docSorted_map_at ((docOrder_sorted root).sublist (precedingPaths_rev_sublist root p))
      · rw [axisRel]
        cases n with
        | doc => simp
        | «at» q =>
          rw [at_mem_map_at, (mem_following_preceding root p (hp hctx) q).2, at_mem_docNodes]
          simp [docBefore]
    · cases h
      rcases eq_nil_or_snoc p with rfl | ⟨par, i, rfl⟩
      · refine ⟨.empty _, fun _ n => ?_⟩
        rw [axisRel, no_sibling_of_root n _ fun e => e ▸ docBefore_irrefl _]
        simp [siblingsBefore, splitLast]
      · rw [siblingsBefore_eq, List.map_map]
        refine ⟨.backward (by decide +kernel) ?_, fun hctx n => ?_⟩
        · rw [← List.map_reverse, List.reverse_reverse]
          exact docSorted_children par List.pairwise_lt_range
        · rw [axisRel]; exact mem_earlier_children root par i (hp hctx) n
    · cases h
      refine ⟨.single _ _, fun hctx n => ?_⟩
      rw [axisRel, beq_iff_eq]; exact mem_singleton_iff_of_mem hctx
    · cases h

theorem axis_nodup (axis : String) (n : XNode) (l : List XNode)
    (h : axisNodes root axis n = .ok l) : l.Nodup := by
  have hs := (axisNodes_spec root axis n l h).1.nodup
  unfold axisOrder at hs
  split at hs
  · exact nodup_reverse_iff.1 hs
  · exact hs

theorem axisNodes_eq_denote (axis : String) (ctx : XNode) (l : List XNode)
    (hctx : ctx ∈ docNodes root) (h : axisNodes root axis ctx = .ok l) : l = axisDenote root axis ctx := by
  obtain ⟨hs, hm⟩ := axisNodes_spec root axis ctx l h
  unfold axisDenote
  unfold axisOrder at hs ⊢
  split at hs
  · rw [if_pos ‹_›, ← eq_filter_docNodes root _ l.reverse hs fun n => by rw [List.mem_reverse, hm hctx],
      List.reverse_reverse]
  · rw [if_neg ‹_›]
    exact eq_filter_docNodes root _ l hs (hm hctx)

end Delb.XPath
