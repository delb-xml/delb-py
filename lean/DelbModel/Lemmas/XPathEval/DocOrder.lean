import DelbModel.Model.XPath.Eval
import DelbModel.Lemmas.Edit
import DelbModel.Lemmas.Nav
namespace Delb.XPath
open Delb.Edit Delb.Nav

/-! ## `pathLt` is a strict total order: the lexicographic order of lists -/

theorem pathLt_cons (a b : Nat) (p q : List Nat) :
    pathLt (a :: p) (b :: q) = true ↔ a < b ∨ (a = b ∧ pathLt p q = true) := by
  simp [pathLt]

theorem pathLt_nil_left (q : List Nat) : pathLt [] q = true ↔ q ≠ [] := by
  cases q <;> simp [pathLt]

theorem pathLt_nil_right (p : List Nat) : pathLt p [] = false := by
  cases p <;> simp [pathLt]

theorem pathLt_iff_lt (p q : List Nat) : pathLt p q = true ↔ p < q := by
  induction p generalizing q with
  | nil => cases q <;> simp [pathLt]
  | cons a p ih =>
    cases q with
    | nil => simp [pathLt]
    | cons b q => rw [pathLt_cons, ih, List.cons_lt_cons_iff]

theorem pathLt_irrefl (p : List Nat) : pathLt p p = false :=
  Bool.eq_false_iff.2 fun h => List.lt_irrefl p ((pathLt_iff_lt p p).1 h)

theorem pathLt_trans {p q r : List Nat} (h₁ : pathLt p q = true) (h₂ : pathLt q r = true) :
    pathLt p r = true :=
  (pathLt_iff_lt p r).2 (List.lt_trans ((pathLt_iff_lt p q).1 h₁) ((pathLt_iff_lt q r).1 h₂))

theorem pathLt_asymm {p q : List Nat} (h : pathLt p q = true) : pathLt q p = false :=
  Bool.eq_false_iff.2 fun hq => List.lt_asymm ((pathLt_iff_lt p q).1 h) ((pathLt_iff_lt q p).1 hq)

theorem pathLt_ne {p q : List Nat} (h : pathLt p q = true) : p ≠ q := by
  rintro rfl; rw [pathLt_irrefl] at h; cases h

theorem pathLt_total {p q : List Nat} (h : pathLt p q = false) (hne : p ≠ q) : pathLt q p = true := by
  rw [Bool.eq_false_iff, Ne, pathLt_iff_lt] at h
  rw [pathLt_iff_lt]
  exact Decidable.byContradiction fun hn => hne (List.le_antisymm (List.not_lt.1 hn) (List.not_lt.1 h))

theorem pathLt_of_prefix {p q : List Nat} (hpq : p <+: q) (hne : p ≠ q) : pathLt p q = true := by
  obtain ⟨t, rfl⟩ := hpq
  induction p with
  | nil =>
    cases t with
    | nil => exact absurd rfl hne
    | cons x t => simp [pathLt]
  | cons a p ih =>
    simp only [List.cons_append]
    rw [pathLt_cons]
    exact .inr ⟨rfl, ih (fun h => hne (by simp only [List.cons_append]; rw [← h]))⟩

theorem pathLt_append_left (p a b : List Nat) : pathLt (p ++ a) (p ++ b) = pathLt a b := by
  induction p with
  | nil => rfl
  | cons x p ih => simp [pathLt, ih]

theorem pathLt_concat (par : List Nat) (i j : Nat) : pathLt (par ++ [i]) (par ++ [j]) = true ↔ i < j := by
  rw [pathLt_append_left]; simp [pathLt]

theorem nodup_of_pairwise_pathLt {l : List (List Nat)} (hl : l.Pairwise (fun a b => pathLt a b = true)) :
    l.Nodup := by
  unfold List.Nodup
  exact hl.imp (fun h => pathLt_ne h)

theorem pathsOf_tag (i : Nat) (ns nm : String) (a : List Attr) (ks : List PTree) :
    pathsOf (.tag i ns nm a ks) = [] :: pathsOfList 0 ks := by simp [pathsOf]

@[simp] theorem pathsOfList_nil (i : Nat) : pathsOfList i [] = [] := by simp [pathsOfList]
@[simp] theorem pathsOfList_cons (i : Nat) (k : PTree) (ks : List PTree) :
    pathsOfList i (k :: ks) = (pathsOf k).map (i :: ·) ++ pathsOfList (i + 1) ks := by simp [pathsOfList]

theorem nil_mem_pathsOf (t : PTree) : [] ∈ pathsOf t := by
  cases t <;> simp [pathsOf]

theorem mem_pathsOfList (ks : List PTree) (i : Nat) (q : List Nat) :
    q ∈ pathsOfList i ks ↔ ∃ j rest c, q = (i + j) :: rest ∧ ks[j]? = some c ∧ rest ∈ pathsOf c := by
  induction ks generalizing i with
  | nil => simp
  | cons k ks ih =>
    rw [pathsOfList_cons, List.mem_append, ih]
    constructor
    · rintro (h | ⟨j, rest, c, rfl, hc, hr⟩)
      · obtain ⟨rest, hr, rfl⟩ := List.mem_map.1 h
        exact ⟨0, rest, k, rfl, rfl, hr⟩
      · exact ⟨j + 1, rest, c, by rw [Nat.add_assoc, Nat.add_comm 1 j], hc, hr⟩
    · rintro ⟨j, rest, c, rfl, hc, hr⟩
      cases j with
      | zero =>
        cases hc
        exact .inl (List.mem_map.2 ⟨rest, hr, rfl⟩)
      | succ j =>
        exact .inr ⟨j, rest, c, by rw [Nat.add_assoc, Nat.add_comm 1 j], hc, hr⟩

theorem mem_pathsOf (t : PTree) (p : List Nat) : p ∈ pathsOf t ↔ (getAtP t p).isSome := by
  induction p generalizing t with
  | nil => simp [nil_mem_pathsOf, getAtP]
  | cons k p ih =>
    cases t with
    | tag i ns nm a ks =>
      rw [pathsOf_tag, List.mem_cons, mem_pathsOfList]
      simp only [getAtP]
      constructor
      · rintro (h | ⟨j, rest, c, h, hc, hr⟩)
        · cases h
        · simp only [Nat.zero_add, List.cons.injEq] at h
          obtain ⟨rfl, rfl⟩ := h
          simp only [hc]; exact (ih c).1 hr
      · intro h
        cases hc : ks[k]? with
        | none => simp [hc] at h
        | some c =>
          simp only [hc] at h
          exact .inr ⟨k, p, c, by simp, hc, (ih c).2 h⟩
    | text _ _ | comment _ _ | pi _ _ _ => simp [pathsOf, getAtP]

theorem pathsOfList_head (ks : List PTree) (i : Nat) (q : List Nat) (h : q ∈ pathsOfList i ks) :
    ∃ j rest, q = j :: rest ∧ i ≤ j := by
  obtain ⟨j, rest, c, rfl, _, _⟩ := (mem_pathsOfList ks i q).1 h
  exact ⟨i + j, rest, rfl, by omega⟩

mutual
  theorem pathsOf_sorted : ∀ (t : PTree), (pathsOf t).Pairwise (fun a b => pathLt a b = true)
    | .tag i ns nm a ks => by
      rw [pathsOf_tag, List.pairwise_cons]
      refine ⟨?_, pathsOfList_sorted ks 0⟩
      intro q hq
      obtain ⟨j, rest, rfl, _⟩ := pathsOfList_head ks 0 q hq
      simp [pathLt]
    | .text i s => by simp [pathsOf]
    | .comment i s => by simp [pathsOf]
    | .pi i t s => by simp [pathsOf]
  theorem pathsOfList_sorted : ∀ (ks : List PTree) (i : Nat),
      (pathsOfList i ks).Pairwise (fun a b => pathLt a b = true)
    | [], i => by simp
    | k :: ks, i => by
      rw [pathsOfList_cons, List.pairwise_append]
      refine ⟨?_, pathsOfList_sorted ks (i + 1), ?_⟩
      · rw [List.pairwise_map]
        exact (pathsOf_sorted k).imp (fun h => by rw [pathLt_cons]; exact .inr ⟨rfl, h⟩)
      · intro x hx y hy
        obtain ⟨r, _, rfl⟩ := List.mem_map.1 hx
        obtain ⟨j, rest, rfl, hj⟩ := pathsOfList_head ks (i + 1) y hy
        rw [pathLt_cons]; exact .inl (by omega)
end

theorem docOrder_sorted (root : PTree) : (docOrder root).Pairwise (fun a b => pathLt a b = true) :=
  pathsOf_sorted root

theorem docOrder_nodup (root : PTree) : (docOrder root).Nodup :=
  nodup_of_pairwise_pathLt (docOrder_sorted root)

theorem mem_docOrder (root : PTree) (p : List Nat) : p ∈ docOrder root ↔ (getAtP root p).isSome :=
  mem_pathsOf root p

theorem mem_docOrder_of_prefix {root : PTree} {p q : List Nat} (hq : q ∈ docOrder root) (hpq : p <+: q) :
    p ∈ docOrder root := by
  rw [mem_docOrder] at hq ⊢
  obtain ⟨n, hn⟩ := Option.isSome_iff_exists.1 hq
  obtain ⟨m, hm⟩ := getAtP_prefix root q n hn p.length
  rw [List.prefix_iff_eq_take.1 hpq, hm]; rfl

end Delb.XPath
