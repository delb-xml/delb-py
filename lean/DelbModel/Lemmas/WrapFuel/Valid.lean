import DelbModel.Lemmas.WrapFuel.Basic
import DelbModel.Lemmas.WrapTransparent.Text
import DelbModel.Lemmas.Roundtrip
/-!
# Facts behind the totality of the text-wrapping serializer

* the navigation (`_fetch_following`, `fetch_following_sibling`) only yields paths of existing nodes;
* every namespace of a subtree is a namespace of the tree;
* normalized text content is not empty, and — unless it is a single space — not blank;
* `_wrap_text` yields at least one line for a non-empty text, and the first line of a text that does not begin
  with a space is not empty.
-/
namespace Delb.Wrapping
open Delb.Ser Delb.WS Delb.Pretty

def Valid (root : Node) (p : Path) : Prop := ∃ n, nodeAt root p = some n

theorem valid_kid {root : Node} {p : Path} {i : Nat} (h : i < lenAt root p) : Valid root (p ++ [i]) := by
  obtain ⟨pn, k, hp, hk⟩ := lenAt_pos h
  exact ⟨k, by rw [nodeAt_snoc hp, hk]⟩

theorem fetchFollowingSibling_valid {root : Node} {p s : Path} (h : fetchFollowingSibling root p = some s) :
    Valid root s := by
  rcases eq_nil_or_snoc p with rfl | ⟨q, i, rfl⟩
  · simp [fetchFollowingSibling] at h
  · rw [fetchFollowingSibling_snoc] at h
    split at h
    · rename_i hlt; cases h; exact valid_kid hlt
    · cases h

theorem nextSiblingOfAnAncestor_valid (root : Node) : ∀ (n : Nat) (p q : Path),
    nextSiblingOfAnAncestor root n p = some q → Valid root q
  | 0, p, q, h => by simp [nextSiblingOfAnAncestor] at h
  | n + 1, p, q, h => by
    simp only [nextSiblingOfAnAncestor] at h
    split at h
    · cases h
    · split at h
      · rename_i s hs; cases h; exact fetchFollowingSibling_valid hs
      · exact nextSiblingOfAnAncestor_valid root n _ q h

theorem fetchFollowing_valid {root : Node} {p q : Path} (h : fetchFollowing root p = some q) : Valid root q := by
  unfold fetchFollowing at h
  split at h
  · rename_i hlen; cases h; exact valid_kid hlen
  · split at h
    · rename_i s hs; cases h; exact fetchFollowingSibling_valid hs
    · exact nextSiblingOfAnAncestor_valid root _ _ q h

theorem kidsNamespaces_mem : ∀ {kids : List Node} {i : Nat} {k : Node}, kids[i]? = some k →
    ∀ ns ∈ treeNamespaces k, ns ∈ kidsNamespaces kids
  | [], i, k, h => by simp at h
  | x :: xs, 0, k, h => by
    simp at h; subst h
    intro ns hns; simp [kidsNamespaces, hns]
  | x :: xs, i + 1, k, h => by
    simp at h
    intro ns hns
    have := kidsNamespaces_mem h ns hns
    simp [kidsNamespaces, this]

theorem treeNamespaces_nodeAt : ∀ {root : Node} {p : Path} {n : Node}, nodeAt root p = some n →
    ∀ ns ∈ treeNamespaces n, ns ∈ treeNamespaces root
  | root, [], n, h => by
    simp [nodeAt] at h; subst h; exact fun _ h => h
  | root, i :: p, n, h => by
    simp only [nodeAt] at h
    cases hi : (kidsOf root)[i]? with
    | none => rw [hi] at h; cases h
    | some k =>
      rw [hi] at h
      intro ns hns
      have h1 := treeNamespaces_nodeAt h ns hns
      cases root with
      | tag rns name attrs kids =>
        simp only [kidsOf] at hi
        have := kidsNamespaces_mem hi ns h1
        simp [treeNamespaces, this]
      | _ => simp [kidsOf] at hi

def EnvOk (e : Env) : Prop := ∀ ns ∈ treeNamespaces e.root, (dget e.m ns).isSome

theorem envOk_sub {e : Env} (he : EnvOk e) {p : Path} {n : Node} (h : nodeAt e.root p = some n) :
    ∀ ns ∈ treeNamespaces n, (dget e.m ns).isSome :=
  fun ns hns => he ns (treeNamespaces_nodeAt h ns hns)

theorem mem_treeNamespaces_attr {ns name : String} {attrs : List Attr} {kids : List Node} {a : Attr}
    (ha : a ∈ attrs) : a.ns ∈ treeNamespaces (.tag ns name attrs kids) := by
  simp only [treeNamespaces]; simp; exact Or.inr (Or.inl ⟨a, ha, rfl⟩)

theorem collapse_ne_nil {s : Str} (h : s ≠ []) : collapse pyWs s ≠ [] :=
  fun h' => h (collapse_eq_nil h')

theorem normalizeText_ne_nil {s : Str} (h : s ≠ []) : normalizeText s ≠ [] :=
  escapeText_ne_nil (collapse_ne_nil h)

theorem ltrim_normalizeText_ne_nil {s : Str} (h : s ≠ []) (h1 : normalizeText s ≠ [' ']) :
    ltrim pyWs (normalizeText s) ≠ [] := by
  intro hl
  unfold normalizeText normText at hl h1
  rw [ltrim_escapeText] at hl
  have h2 := escapeText_eq_nil hl
  have h3 : strip pyWs (collapse pyWs s) = [] := by
    unfold strip; rw [h2]; rfl
  apply h1
  rw [collapse_eq_space_of_strip_nil h h3]
  rfl

theorem head_ltrim (s : Str) : (ltrim pyWs s).head? ≠ some ' ' := by
  unfold ltrim
  intro h
  have := List.head?_dropWhile_not pyWs s
  rw [h] at this
  simp [pyWs_space] at this

theorem wrapText_ne_nil (w : Nat) {t : Str} (h : t ≠ []) : Wrap.wrapText w t ≠ [] :=
  Wrap.wrap_ne_nil w _ t h (by omega)

theorem wrapText_head (w : Nat) {t : Str} (h : t ≠ []) (hs : t.head? ≠ some ' ') :
    ∃ l rest, Wrap.wrapText w t = l :: rest ∧ l ≠ [] := by
  unfold Wrap.wrapText
  rcases Wrap.wrap_step w t.length t with h' | ⟨i, _, hil, hsp, h'⟩
  · rw [h', if_neg h]; exact ⟨t, [], rfl, h⟩
  · refine ⟨_, _, h', ?_⟩
    obtain ⟨c, cs, rfl⟩ := List.exists_cons_of_ne_nil h
    cases i with
    | zero => exact absurd (by simpa using hsp) hs
    | succ i => simp

end Delb.Wrapping
