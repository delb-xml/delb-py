import DelbModel.Lemmas.WrapFuel.Valid
/-!
# `_required_space`: a budget of `3 * rest root p + 1` is never exhausted, and nothing else goes wrong on a
node of a tree whose namespaces have prefixes
-/
namespace Delb.Wrapping
open Delb.Ser Delb.WS Delb.Pretty

theorem pfx_noFuel (m : Dict) (ns : String) : NoFuel (pfx m ns) := by
  unfold pfx NoFuel
  split
  · trivial
  · rw [Tot_error]; decide +kernel

section
variable {A B : Prop}

theorem pfx_run (m : Dict) (ns : String) (h : B → (dget m ns).isSome) : Tot (Bad A B) (pfx m ns) (fun _ => True) :=
  tot_of (pfx_noFuel m ns) (fun b => pfx_total (h b))

theorem requiredSpaceForAttributes_run (e : Env) : ∀ (as : List Attr) (r : Nat) (upTo : Int),
    (B → ∀ a ∈ as, (dget e.m a.ns).isSome) → Tot (Bad A B) (requiredSpaceForAttributes e as r upTo) (fun _ => True)
  | [], r, upTo, _ => trivial
  | a :: as, r, upTo, h => by
    rw [requiredSpaceForAttributes]
    have := pfx_run (A := A) e.m a.ns (fun b => h b a (by simp))
    split
    · rename_i err he; rw [he] at this; exact this
    · simp only
      split
      · trivial
      · exact requiredSpaceForAttributes_run e as _ upTo (fun b x hx => h b x (by simp [hx]))

theorem requiredSpace_run (e : Env) (hB : B → EnvOk e) : ∀ fuel,
    (∀ p upTo, (A → 3 * rest e.root p + 1 ≤ fuel) → (B → Valid e.root p) →
      Tot (Bad A B) (requiredSpace e fuel p upTo) (fun _ => True)) ∧
    (∀ p ns name attrs kids i used upTo, nodeAt e.root p = some (.tag ns name attrs kids) →
      (A → 3 * (sizeList (kids.drop i) + outside e.root p) + 2 ≤ fuel) →
      Tot (Bad A B) (requiredSpaceChildren e fuel p i kids.length used upTo) (fun _ => True)) ∧
    (∀ p upTo, (A → 1 ≤ fuel ∧ ∀ q, fetchFollowing e.root p = some q → 3 * rest e.root q + 2 ≤ fuel) →
      Tot (Bad A B) (requiredSpaceForFollowing e fuel p upTo) (fun _ => True)) := by
  intro fuel
  induction fuel with
  | zero =>
    refine ⟨?_, ?_, ?_⟩
    · intro p upTo h _; rw [requiredSpace]; exact bad_fuel (fun a => by have := h a; omega)
    · intro p ns name attrs kids i used upTo _ h
      rw [requiredSpaceChildren]; exact bad_fuel (fun a => by have := h a; omega)
    · intro p upTo h; rw [requiredSpaceForFollowing]; exact bad_fuel (fun a => by have := (h a).1; omega)
  | succ fuel ih =>
    obtain ⟨ihR, ihC, ihF⟩ := ih
    refine ⟨?_, ?_, ?_⟩
    · intro p upTo hf hv
      rw [requiredSpace]
      cases hnode : nodeAt e.root p with
      | none =>
        have : getNode e p = .error (.invalidCodePath "no node at path") := by unfold getNode; rw [hnode]
        rw [this]
        exact bad_lit (by decide +kernel) (fun b => by obtain ⟨n, hn⟩ := hv b; rw [hnode] at hn; cases hn)
      | some node =>
        rw [getNode_eq hnode, ok_bind]
        split
        · trivial
        · trivial
        · trivial
        · rename_i ns name attrs kids
          have hns := fun b => envOk_sub (hB b) hnode
          refine Tot_bind_of (pfx_run e.m ns (fun b => hns b ns (by simp [treeNamespaces]))) (fun pr _ _ => ?_)
          simp only
          generalize (if kids.isEmpty = true then 3 + (name.length + pr.length)
            else 5 + 2 * (name.length + pr.length)) = used
          refine Tot_ite (fun _ => trivial) (fun _ => ?_)
          refine Tot_bind_of (requiredSpaceForAttributes_run e attrs 0 _
            (fun b a ha => hns b a.ns (mem_treeNamespaces_attr ha))) (fun r _ _ => ?_)
          split
          · have hrest : rest e.root p = 1 + sizeList kids + outside e.root p := by
              rw [rest_valid hnode]; simp [size]
            refine Tot_bind_of (ihC p ns name attrs kids 0 _ upTo hnode
              (fun a => by have := hf a; simp; omega)) (fun r _ _ => ?_)
            split
            · refine Tot_bind_of (ihF p _ (fun a => ⟨by have := hf a; omega, fun q hq => ?_⟩)) (fun r _ _ => ?_)
              · have := rest_following hnode hq
                have := hf a
                omega
              · split <;> trivial
            · trivial
          · trivial
    · intro p ns name attrs kids i used upTo hnode hf
      rw [requiredSpaceChildren]
      refine Tot_ite (fun _ => trivial) (fun hi => ?_)
      have hlt : i < kids.length := by omega
      have hkid := nodeAt_kid_lt hnode hlt
      have hd : sizeList (kids.drop i) = size kids[i] + sizeList (kids.drop (i + 1)) :=
        sizeList_drop (by simp [hlt])
      have hr := rest_snoc hnode (show (kidsOf (Node.tag ns name attrs kids))[i]? = some kids[i] by simp [kidsOf, hlt])
      simp only [kidsOf] at hr
      have := size_pos kids[i]
      refine Tot_bind_of (ihR (p ++ [i]) _ (fun a => by have := hf a; omega) (fun _ => ⟨_, hkid⟩)) (fun r _ _ => ?_)
      split
      · exact ihC p ns name attrs kids (i + 1) _ upTo hnode (fun a => by have := hf a; omega)
      · trivial
    · intro p upTo hf
      rw [requiredSpaceForFollowing]
      refine Tot_ite (fun _ => trivial) (fun _ => ?_)
      split
      · rename_i q hq
        obtain ⟨node, hnode⟩ := fetchFollowing_valid hq
        rw [getNode_eq hnode, ok_bind]
        split
        · trivial
        · exact ihR q upTo (fun a => by have := (hf a).2 q hq; omega) (fun _ => ⟨node, hnode⟩)
      · trivial
end

theorem requiredSpace_full {A B : Prop} (e : Env) (hA : A → 3 * size e.root + 1 ≤ e.fuel) (hB : B → EnvOk e)
    {p : Path} (upTo : Int) (hp : Valid e.root p) :
    Tot (Bad A B) (requiredSpace e e.fuel p upTo) (fun _ => True) :=
  (requiredSpace_run e hB e.fuel).1 p upTo (fun a => by have := hA a; have := rest_le e.root p; omega) (fun _ => hp)

end Delb.Wrapping
