import DelbModel.Lemmas.WrapFuel.Required
import DelbModel.Lemmas.Pretty
/-!
# The non-recursive methods of the text-wrapping serializer

For each of them one statement `Tot (Bad A B) … Q`: the budget is not reported as exhausted if `_required_space`,
called with the full budget `e.fuel`, does not exhaust it (`A`); nothing is raised if the prefix map covers the
tree (`B`), given that paths are paths of nodes and the pending text nodes are non-empty text nodes (`InvU`);
and the layout pieces written are whitespace (`L`).
-/
namespace Delb.Wrapping
open Delb.Ser Delb.WS Delb.Pretty

theorem attrsData_noFuel (m : Dict) : ∀ as : List Attr, NoFuel (attrsData m as)
  | [] => trivial
  | a :: as => by
    rw [attrsData]
    have h1 := pfx_noFuel m a.ns
    have h2 := attrsData_noFuel m as
    cases hp : pfx m a.ns with
    | error err => rw [hp] at h1; cases attrsData m as <;> exact h1
    | ok pr =>
      cases ha : attrsData m as with
      | error err => rw [ha] at h2; exact h2
      | ok rest => trivial

theorem emit_noFuel (m : Dict) :
    (∀ n : Node, NoFuel (emitNode m n)) ∧ (∀ l : List Node, NoFuel (emitKids m l)) := by
  apply Pretty.node_induct
  · intro ns name attrs kids ih
    rw [emitNode]
    have h1 := pfx_noFuel m ns
    have h2 := attrsData_noFuel m (sortAttrs attrs)
    cases hp : pfx m ns with
    | error err => rw [hp] at h1; cases attrsData m (sortAttrs attrs) <;> cases emitKids m kids <;> exact h1
    | ok pr =>
      cases ha : attrsData m (sortAttrs attrs) with
      | error err => rw [ha] at h2; cases emitKids m kids <;> exact h2
      | ok ad =>
        cases hk : emitKids m kids with
        | error err => rw [hk] at ih; exact ih
        | ok ks => simp only; split <;> trivial
  · intro s; rw [emitNode]; split <;> trivial
  · intro s; rw [emitNode]; trivial
  · intro t s; rw [emitNode]; trivial
  · rw [emitKids]; trivial
  · intro k ks ihk ihks
    rw [emitKids]
    cases hk : emitNode m k with
    | error err => rw [hk] at ihk; cases emitKids m ks <;> exact ihk
    | ok a =>
      cases hks : emitKids m ks with
      | error err => rw [hks] at ihks; exact ihks
      | ok b => trivial

/-- the pending text nodes are non-empty text nodes of the tree -/
def InvU (e : Env) (st : St) : Prop := ∀ q ∈ st.unwritten, ∃ s, nodeAt e.root q = some (.text s) ∧ s ≠ []

theorem invU_nil (e : Env) {st : St} (h : st.unwritten = []) : InvU e st := by
  intro q hq; rw [h] at hq; cases hq

/-- lines that `_consolidate_text_lines` does not reduce to nothing -/
def GoodLines (lines : List Str) : Prop := ∃ l rest, lines = l :: rest ∧ (l ≠ [] ∨ rest ≠ [])

theorem goodLines_snoc {lines : List Str} (h : GoodLines lines) (x : Str) : GoodLines (lines ++ [x]) := by
  obtain ⟨l, rest, rfl, _⟩ := h
  exact ⟨l, rest ++ [x], rfl, Or.inr (by simp)⟩

theorem goodLines_cons (l : Str) {rest : List Str} (h : rest ≠ []) : GoodLines (l :: rest) :=
  ⟨l, rest, rfl, Or.inr h⟩

section
variable {A B L : Prop}

theorem attrsData_run (m : Dict) {ns name : String} {attrs : List Attr} {kids : List Node}
    (h : B → ∀ x ∈ treeNamespaces (.tag ns name attrs kids), (dget m x).isSome) :
    Tot (Bad A B) (attrsData m (sortAttrs attrs)) (fun _ => True) :=
  tot_of (attrsData_noFuel m _) (fun b => attrsData_tag_total (h b))

theorem emitNode_run (m : Dict) (n : Node) (h : B → ∀ x ∈ treeNamespaces n, (dget m x).isSome) :
    Tot (Bad A B) (emitNode m n) (fun _ => True) :=
  tot_of ((emit_noFuel m).1 n) (fun b => emitNode_total _ (h b))

theorem writeToks_run {st : St} (h : LWif L st) (ts : List Tok) : LWif L (writeToks st ts) :=
  fun l => writeToks_LW ts (h l)

theorem lf_run (m : Dict) :
    (∀ n : Node, (B → ∀ ns ∈ treeNamespaces n, (dget m ns).isSome) → ∀ st, LWif L st →
      Tot (Bad A B) (lfSerializeNode m n st) (fun st' => LWif L st' ∧ st'.unwritten = st.unwritten)) ∧
    (∀ l : List Node, (B → ∀ ns ∈ kidsNamespaces l, (dget m ns).isSome) → ∀ st, LWif L st →
      Tot (Bad A B) (lfHandleChildNodes m l st) (fun st' => LWif L st' ∧ st'.unwritten = st.unwritten)) := by
  have hmk : ∀ {p : Piece}, (∀ s, p ≠ .layout s) → ∀ {st : St}, LWif L st →
      LWif L (write st [p]) ∧ (write st [p]).unwritten = st.unwritten :=
    fun hp _ h => ⟨h.write (LW_single_other hp), write_unwritten _ _⟩
  apply Pretty.node_induct
  · intro ns name attrs kids ih h st hs
    rw [lfSerializeNode_tag]
    refine Tot_bind_of (pfx_run m ns (fun b => h b ns (by simp [treeNamespaces]))) (fun pr _ _ => ?_)
    refine Tot_bind_of (attrsData_run m h) (fun ad _ _ => ?_)
    have h0 : LWif L (lfEnter attrs st) := fun l => by rw [lfEnter_out]; exact hs l
    refine Tot_bind_of (R := fun st2 => LWif L st2 ∧ st2.unwritten = st.unwritten) ?_ ?_
    · refine Tot_ite (fun _ => ⟨(hmk (by intro s; simp) h0).1, by simp⟩) (fun _ => ?_)
      refine Tot_bind_of (ih (fun b x hx => h b x (by simp only [treeNamespaces]; simp; exact Or.inr (Or.inr hx))) _
        (hmk (by intro s; simp) h0).1) (fun st1 _ h1 => ?_)
      exact ⟨(hmk (by intro s; simp) h1.1).1, by simp [h1.2]⟩
    · intro st2 _ h2
      exact ⟨fun l => by rw [lfLeave_out]; exact h2.1 l, by simpa using h2.2⟩
  · intro s _ st hs
    rw [lfSerializeNode]
    split
    · exact ⟨hs, rfl⟩
    · split <;> exact hmk (by intro s; simp) hs
  · intro s _ st hs; rw [lfSerializeNode]; exact hmk (by intro s; simp) hs
  · intro t s _ st hs; rw [lfSerializeNode]; exact hmk (by intro s; simp) hs
  · intro _ st hs; rw [lfHandleChildNodes]; exact ⟨hs, rfl⟩
  · intro k ks ihk ihks h st hs
    rw [lfHandleChildNodes_cons]
    refine Tot_bind_of (ihk (fun b x hx => h b x (by simp [kidsNamespaces, hx])) st hs) (fun st1 _ h1 => ?_)
    exact Tot_mono (ihks (fun b x hx => h b x (by simp [kidsNamespaces, hx])) st1 h1.1)
      (fun st2 _ h2 => ⟨h2.1, by rw [h2.2, h1.2]⟩)

section
variable (e : Env) (hA : A → 3 * size e.root + 1 ≤ e.fuel) (hB : B → EnvOk e) (hL : L → AllWs e.o.indent)

include hB hL in
theorem serializeAppendableNode_run {p : Path} {node : Node} (hnode : nodeAt e.root p = some node)
    (hnt : B → node.isText = false) {st : St} (hs : LWif L st) :
    Tot (Bad A B) (serializeAppendableNode e p st) (fun st' => LWif L st' ∧ st'.unwritten = st.unwritten) := by
  rw [serializeAppendableNode_eq, getNode_eq hnode, ok_bind]
  have hns := fun b => envOk_sub (hB b) hnode
  generalize hst0 : (if (st.offset == 0 && !e.o.indent.isEmpty) = true then
    write st [.layout (indentN e.o st.level)] else st) = st0
  have h0 : LWif L st0 ∧ st0.unwritten = st.unwritten := by
    rw [← hst0]; split
    · exact ⟨fun l => write_LW (hs l) (LW_cons_layout (allWs_indentN e.o (hL l) _) LW_nil), write_unwritten _ _⟩
    · exact ⟨hs, rfl⟩
  split
  · exact bad_lit (by decide +kernel) (fun b => by cases hnt b)
  · exact ⟨h0.1.write (LW_single_other (by intro s; simp)), by simp [h0.2]⟩
  · exact ⟨h0.1.write (LW_single_other (by intro s; simp)), by simp [h0.2]⟩
  · refine Tot_ite (fun _ => ?_) (fun _ => ?_)
    · refine Tot_bind_of (emitNode_run e.m _ hns) (fun toks _ _ => ?_)
      exact ⟨fun l => writeToks_LW toks (h0.1 l), by simp [h0.2]⟩
    · refine Tot_bind_of ((lf_run e.m).1 _ hns st0 h0.1) (fun st1 _ h1 => ?_)
      exact ⟨h1.1, by simp [h1.2, h0.2]⟩

include hA hB in
theorem nodeFitsRemainingLine_run (st : St) {p : Path} (hp : Valid e.root p) :
    Tot (Bad A B) (nodeFitsRemainingLine e st p) (fun _ => True) := by
  unfold nodeFitsRemainingLine
  exact Tot_bind_of (requiredSpace_full e hA hB _ hp) (fun _ _ _ => trivial)

include hA hB in
theorem afterNode_run (p : Path) {st : St} (hs : LWif L st) :
    Tot (Bad A B) (afterNode e p st) (fun st' => LWif L st' ∧ st'.unwritten = st.unwritten) := by
  have hk : ∀ b, Tot (Bad A B) (afterNodeK st b) (fun st' => LWif L st' ∧ st'.unwritten = st.unwritten) := by
    intro b; unfold afterNodeK
    exact Tot_ite (fun _ => ⟨hs.write LW_nl, write_unwritten _ _⟩) (fun _ => ⟨hs, rfl⟩)
  unfold afterNode
  refine Tot_ite (fun _ => ?_) (fun _ => ⟨hs, rfl⟩)
  cases hq : fetchFollowing e.root p with
  | none => exact hk _
  | some q => exact Tot_bind_of (nodeFitsRemainingLine_run e hA hB _ (fetchFollowing_valid hq)) (fun _ _ _ => hk _)

omit e in
theorem wrapFirst_run (w : Int) {text : Str} (h : B → text ≠ []) : Tot (Bad A B) (wrapFirst w text) (fun _ => True) := by
  unfold wrapFirst
  split
  · split <;> trivial
  · split
    · trivial
    · rename_i hnil
      exact bad_lit (by decide +kernel) (fun b => wrapText_ne_nil w.toNat (h b) hnil)

theorem consolidateTextLines_run (st : St) (lines : List Str) (hu : st.unwritten ≠ []) (hl : B → GoodLines lines) :
    Tot (Bad A B) (consolidateTextLines e st lines) (fun l => B → l ≠ []) := by
  obtain ⟨lastNode, hlast⟩ := getLast?_some_of_ne hu
  unfold consolidateTextLines
  rw [hlast]
  cases lines with
  | nil => exact bad_lit (by decide +kernel) (fun b => by obtain ⟨_, _, h, _⟩ := hl b; cases h)
  | cons l rest =>
    simp only [List.head?_cons]
    split
    · intro _
      show _ ++ _ ≠ []
      simp
    · intro b
      obtain ⟨_, _, h, hg⟩ := hl b
      cases h
      show (if _ then _ else _ : List Str) ≠ []
      split
      · rename_i hc
        simp only [Bool.and_eq_true, List.isEmpty_iff] at hc
        have hrest : rest ≠ [] := hg.resolve_left (fun h => h hc.2)
        split
        · simp
        · simpa using hrest
      · split <;> simp

include hL in
theorem linesK_run {st : St} (hs : LWif L st) (lines : List Str) (hu : st.unwritten ≠ []) (hl : B → GoodLines lines) :
    Tot (Bad A B) (linesK e st lines) (LWif L) := by
  unfold linesK
  refine Tot_bind_of (consolidateTextLines_run e st lines hu hl) (fun l' _ hne => ?_)
  have hw : LWif L (writeLines (indentN e.o st.level) st l'.dropLast) :=
    fun l => writeLines_LW (allWs_indentN e.o (hL l) _) _ (hs l)
  cases hg : l'.getLast? with
  | none => exact bad_lit (by decide +kernel) (fun b => hne b (List.getLast?_eq_none_iff.1 hg))
  | some lastLine =>
    show LWif L (if _ then _ else _)
    split
    · exact hw
    · exact fun l => write_LW (hw l) (LW_lastLine (allWs_indentN e.o (hL l) _))

include hA hB hL

theorem overLinesTail_run (lastNode : Path) {st : St} (hs : LWif L st) (lines : List Str) (hu : st.unwritten ≠ [])
    (hl : B → GoodLines lines) : Tot (Bad A B) (overLinesTail e lastNode st lines) (LWif L) := by
  have hk := linesK_run (A := A) e hL hs lines hu hl
  have hk' := linesK_run (A := A) e hL hs (lines ++ [[]]) hu (fun b => goodLines_snoc (hl b) _)
  unfold overLinesTail
  cases hg : lines.getLast? with
  | none => exact bad_lit (by decide +kernel) (fun b => by obtain ⟨_, _, h, _⟩ := hl b; rw [h] at hg; simp at hg)
  | some lastLine =>
    simp only
    refine Tot_ite (fun _ => ?_) (fun _ => hk)
    cases hs' : fetchFollowingSibling e.root lastNode with
    | none => exact hk
    | some s =>
      refine Tot_bind_of (requiredSpace_full e hA hB _ (fetchFollowingSibling_valid hs')) (fun r _ _ => ?_)
      split
      · exact hk'
      · exact hk'
      · exact hk

theorem fillingK_run (f l : Path) {st : St} (hs : LWif L st) (content filling : Str) (hu : st.unwritten ≠ [])
    (hc : B → content ≠ []) : Tot (Bad A B) (fillingK e f l st content filling) (LWif L) := by
  have h1 : LWif L (write st [textPiece filling]) := hs.write (LW_single_other (by intro s; simp [textPiece]))
  unfold fillingK
  refine Tot_ite (fun _ => Tot_ite (fun _ => h1) (fun hne => ?_)) (fun _ => ?_)
  · exact overLinesTail_run e hA hB hL _ h1 _ (by rw [write_unwritten]; exact hu)
      (fun _ => goodLines_cons _ (wrapText_ne_nil _ (by simpa using hne)))
  · exact overLinesTail_run e hA hB hL _ hs _ hu (fun b => goodLines_cons _ (wrapText_ne_nil _ (hc b)))

theorem serializeTextOverLines_run {st : St} (hs : LWif L st) (content : Str) (hu : st.unwritten ≠ [])
    (hc : B → content ≠ [] ∧ content ≠ [' '] ∧ ltrim pyWs content ≠ []) :
    Tot (Bad A B) (serializeTextOverLines e st content) (LWif L) := by
  rw [serializeTextOverLines_eq]
  obtain ⟨lastNode, hlast⟩ := getLast?_some_of_ne hu
  obtain ⟨firstNode, hfirst⟩ : ∃ a, st.unwritten.head? = some a := by
    cases h : st.unwritten with
    | nil => exact absurd h hu
    | cons a _ => exact ⟨a, rfl⟩
  rw [hfirst, hlast]
  simp only
  refine Tot_ite (fun _ => ?_) (fun _ => Tot_ite (fun hhead => ?_) (fun _ => ?_))
  · refine overLinesTail_run e hA hB hL _ hs _ hu (fun b => ?_)
    obtain ⟨l, rest, hw, hl⟩ := wrapText_head e.width (hc b).2.2 (head_ltrim content)
    rw [hw]
    split
    · exact goodLines_cons _ (by simp)
    · exact ⟨l, rest, rfl, Or.inl hl⟩
  · refine Tot_bind_of (wrapFirst_run _ (fun b => ?_))
      (fun _ _ _ => fillingK_run e hA hB hL _ _ hs _ _ hu (fun b => (hc b).1))
    obtain ⟨c, cs, rfl⟩ := List.exists_cons_of_ne_nil (hc b).1
    simp at hhead; subst hhead
    intro h; simp at h; subst h; exact (hc b).2.1 rfl
  · exact Tot_bind_of (wrapFirst_run _ (fun b => (hc b).1))
      (fun _ _ _ => fillingK_run e hA hB hL _ _ hs _ _ hu (fun b => (hc b).1))

omit hA hB hL in
theorem textAt_run (p : Path) (h : B → ∃ s, nodeAt e.root p = some (.text s) ∧ s ≠ []) :
    Tot (Bad A B) (textAt e p) (fun s => B → s ≠ []) := by
  unfold textAt
  split
  · rename_i s hs
    intro b
    obtain ⟨s', hs', hne⟩ := h b
    rw [hs] at hs'; cases hs'; exact hne
  · rename_i hx
    exact bad_lit (by decide +kernel) (fun b => by obtain ⟨s, hs, _⟩ := h b; exact hx s hs)

omit hA hB hL in
theorem mapM_textAt_run : ∀ l : List Path, (B → ∀ q ∈ l, ∃ s, nodeAt e.root q = some (.text s) ∧ s ≠ []) →
    Tot (Bad A B) (l.mapM (textAt e)) (fun ss => B → l ≠ [] → ss.flatten ≠ [])
  | [], _ => by
    rw [List.mapM_nil]
    exact fun _ h => absurd rfl h
  | p :: ps, h => by
    rw [List.mapM_cons]
    refine Tot_bind_of (textAt_run e p (fun b => h b p (by simp))) (fun s _ hs => ?_)
    · refine Tot_bind_of (mapM_textAt_run ps (fun b q hq => h b q (by simp [hq]))) (fun ss _ _ => ?_)
      intro b _
      obtain ⟨c, cs, rfl⟩ := List.exists_cons_of_ne_nil (hs b)
      simp

theorem serializeText_run {st : St} (hs : LWif L st) (hi : B → InvU e st) (hu : st.unwritten ≠ []) :
    Tot (Bad A B) (serializeText e st) (fun st' => LWif L st' ∧ st'.unwritten = []) := by
  have hfin : ∀ {st1 : St}, LWif L st1 →
      Tot (Bad A B) (finishText st1) (fun st' => LWif L st' ∧ st'.unwritten = []) := fun h => ⟨h, rfl⟩
  have hpre := fun l => allWs_indentN e.o (hL l) st.level
  rw [serializeText_eq]
  refine Tot_bind_of (mapM_textAt_run e _ hi) (fun ss _ hss => ?_)
  obtain ⟨lastNode, hlast⟩ := getLast?_some_of_ne hu
  rw [hlast]
  simp only
  have hc : B → normalizeText ss.flatten ≠ [] ∧
      (normalizeText ss.flatten ≠ [' '] → ltrim pyWs (normalizeText ss.flatten) ≠ []) :=
    fun b => ⟨normalizeText_ne_nil (hss b hu), ltrim_normalizeText_ne_nil (hss b hu)⟩
  generalize normalizeText ss.flatten = content at hc ⊢
  have hk : ∀ pre content b, (L → AllWs pre) →
      Tot (Bad A B) (fitsK st pre content b) (fun st' => LWif L st' ∧ st'.unwritten = []) :=
    fun pre content b h => hfin (fun l => write_LW (hs l) (LW_textPieces (h l) _ _))
  unfold textBody
  refine Tot_ite (fun _ => Tot_ite (fun _ => ?_) (fun _ => ?_))
    (fun _ => Tot_ite (fun _ => ?_) (fun _ => Tot_ite (fun _ => ?_) (fun hc1 => ?_)))
  · -- text fits perfectly
    exact hfin (fun l => write_LW (hs l) (LW_textPieces (hpre l) _ _))
  · exact hfin (hs.write (LW_textPieces allWs_nil _ _))
  · -- text fits current line
    generalize hpc : (if (st.offset == 0) = true then (indentN e.o st.level, ltrim pyWs content)
        else ([], content)) = pc
    have hp : L → AllWs pc.1 := by
      intro l; rw [← hpc]; split
      · exact hpre l
      · exact allWs_nil
    unfold fitsLine
    refine Tot_ite (fun _ => hk _ _ _ hp) (fun _ => ?_)
    cases hq : fetchFollowing e.root lastNode with
    | none => exact hk _ _ _ hp
    | some q =>
      refine Tot_ite (fun _ => ?_) (fun _ => hk _ _ _ hp)
      exact Tot_bind_of (requiredSpace_full e hA hB _ (fetchFollowing_valid hq)) (fun _ _ _ => hk _ _ _ hp)
  · -- " " doesn't fit line
    exact hfin (hs.write LW_nl)
  · -- text doesn't fit current line
    have hc1' : content ≠ [' '] := by simpa using hc1
    exact Tot_bind_of (serializeTextOverLines_run e hA hB hL hs _ hu
      (fun b => ⟨(hc b).1, hc1', (hc b).2 hc1'⟩)) (fun _ _ h1 => hfin h1)
end
end

theorem write_nl_offset_zero (st : St) (h : st.offset ≠ 0) : (write st [nl]).offset = 0 := by
  have hb : (st.offset == 0) = false := by simpa using h
  unfold write
  simp [hb, nl, isEmptyPiece, renderP, renderPiece, newOffset, isNl]

end Delb.Wrapping
