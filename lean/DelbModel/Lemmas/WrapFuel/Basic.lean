import DelbModel.Lemmas.WrapTransparent.Layout
import DelbModel.Lemmas.WrapTransparent.Paths
/-!
# C03 (width ≥ 1), totality: a calculus for "ends well" and the measures of the recursion budget

`Tot P x Q`: the run `x` ends in a result that satisfies `Q`, or in an error that satisfies `P`.  With `P := Bad A B`
the methods of the serializer are walked through once, `A` standing for "the budget is large enough" (then the error is
not `fuelErr`) and `B` for "the prefix map covers the tree" (then it is nothing else); `LWif L` carries the third fact
of that walk: the layout pieces written are whitespace.

`_required_space` walks along `_fetch_following`; its recursion depth is bounded by `3 * rest root p + 1`, with
`rest root p` the nodes from `p` on in document order.
-/
namespace Delb.Wrapping
open Delb.Ser Delb.WS Delb.Pretty

/-- the error that signals an exhausted recursion budget -/
abbrev fuelErr : Err := .invalidCodePath "fuel"

def Tot {α : Type} (P : Err → Prop) (x : Except Err α) (Q : α → Prop) : Prop :=
  match x with
  | .ok a => Q a
  | .error err => P err

section
variable {α β : Type} {P : Err → Prop}

theorem Tot_ok (a : α) (Q : α → Prop) : Tot P (.ok a : Except Err α) Q ↔ Q a := Iff.rfl
theorem Tot_pure (a : α) (Q : α → Prop) : Tot P (pure a : Except Err α) Q ↔ Q a := Iff.rfl
theorem Tot_error (err : Err) (Q : α → Prop) : Tot P (.error err : Except Err α) Q ↔ P err := Iff.rfl
theorem Tot_throw (err : Err) (Q : α → Prop) : Tot P (throw err : Except Err α) Q ↔ P err := Iff.rfl

theorem Tot_bind_of {x : Except Err α} {f : α → Except Err β} {R : α → Prop} {Q : β → Prop}
    (hx : Tot P x R) (hf : ∀ a, x = .ok a → R a → Tot P (f a) Q) : Tot P (x >>= f) Q := by
  cases x with
  | error err => exact hx
  | ok a => exact hf a rfl hx

theorem Tot_ite {c : Prop} [Decidable c] {x y : Except Err α} {Q : α → Prop} (hx : c → Tot P x Q)
    (hy : ¬c → Tot P y Q) : Tot P (if c then x else y) Q := by
  by_cases h : c
  · rw [if_pos h]; exact hx h
  · rw [if_neg h]; exact hy h

theorem Tot_mono {x : Except Err α} {Q R : α → Prop} (h : Tot P x Q) (hqr : ∀ a, x = .ok a → Q a → R a) :
    Tot P x R := by
  cases x with
  | error err => exact h
  | ok a => exact hqr a rfl h

theorem Tot_weaken {P' : Err → Prop} {x : Except Err α} {Q : α → Prop} (h : Tot P x Q)
    (hp : ∀ err, P err → P' err) : Tot P' x Q := by
  cases x with
  | error err => exact hp _ h
  | ok a => exact h

theorem Tot_false_ok {x : Except Err α} {Q : α → Prop} (h : Tot (fun _ => False) x Q) : ∃ a, x = .ok a ∧ Q a := by
  cases x with
  | error err => exact h.elim
  | ok a => exact ⟨a, rfl, h⟩
end

/-- the run does not end with an exhausted recursion budget -/
def NoFuel {α : Type} (x : Except Err α) : Prop := Tot (· ≠ fuelErr) x (fun _ => True)

theorem noFuel_iff {α : Type} (x : Except Err α) : NoFuel x ↔ x ≠ .error fuelErr := by
  cases x with
  | error err =>
    constructor
    · intro h h'; cases h'; exact h rfl
    · intro h h'; exact h (by rw [h'])
  | ok a => exact ⟨fun _ h => (by cases h), fun _ => trivial⟩

theorem noFuel_error {α : Type} {err : Err} (h : err ≠ fuelErr) : NoFuel (.error err : Except Err α) := h
theorem noFuel_ok {α : Type} (a : α) : NoFuel (.ok a : Except Err α) := trivial
theorem noFuel_pure {α : Type} (a : α) : NoFuel (pure a : Except Err α) := trivial

/-- the errors a run may end in: with `A` not the exhausted budget, with `B` nothing but that -/
def Bad (A B : Prop) (err : Err) : Prop := (A → err ≠ fuelErr) ∧ (B → err = fuelErr)

/-- with `L` the layout pieces written so far are whitespace -/
def LWif (L : Prop) (st : St) : Prop := L → LW st.out

section
variable {A B L : Prop} {α : Type}

theorem bad_fuel (h : ¬A) : Bad A B fuelErr := ⟨fun a => absurd a h, fun _ => rfl⟩
theorem bad_lit {err : Err} (h : err ≠ fuelErr) (hB : ¬B) : Bad A B err := ⟨fun _ => h, fun b => absurd b hB⟩

theorem tot_of {x : Except Err α} (h1 : NoFuel x) (h2 : B → ∃ a, x = .ok a) : Tot (Bad A B) x (fun _ => True) := by
  cases x with
  | ok a => trivial
  | error err => exact ⟨fun _ => h1, fun b => by obtain ⟨a, h⟩ := h2 b; cases h⟩

theorem Tot.noFuel {x : Except Err α} {Q : α → Prop} (h : Tot (Bad True B) x Q) : x ≠ .error fuelErr :=
  (noFuel_iff x).1 (Tot_weaken (Tot_mono h (fun _ _ _ => trivial)) (fun _ h => h.1 trivial))

theorem Tot.sure {x : Except Err α} {Q : α → Prop} (h : Tot (Bad True True) x Q) : ∃ a, x = .ok a ∧ Q a :=
  Tot_false_ok (Tot_weaken h (fun _ h => h.1 trivial (h.2 trivial)))

theorem Tot.post {x : Except Err α} {Q : α → Prop} (h : Tot (Bad A B) x Q) : Post x Q := by
  intro a ha; rw [ha] at h; exact h

theorem LWif.write {st : St} (h : LWif L st) {ps : List Piece} (hp : LW ps) : LWif L (write st ps) :=
  fun l => write_LW (h l) hp
end

theorem size_eq (n : Node) : size n = 1 + sizeList (kidsOf n) := by
  cases n <;> simp [size, kidsOf, sizeList]

theorem size_pos (n : Node) : 1 ≤ size n := by rw [size_eq]; omega

theorem sizeList_drop {kids : List Node} {i : Nat} {k : Node} (h : kids[i]? = some k) :
    sizeList (kids.drop i) = size k + sizeList (kids.drop (i + 1)) := by
  obtain ⟨hlt, rfl⟩ := List.getElem?_eq_some_iff.1 h
  rw [List.drop_eq_getElem_cons hlt, sizeList]

theorem sizeList_drop_le : ∀ (kids : List Node) (i : Nat), sizeList (kids.drop i) ≤ sizeList kids
  | [], i => by simp
  | x :: xs, 0 => by simp
  | x :: xs, i + 1 => by
    have := sizeList_drop_le xs i
    simp [sizeList]; omega

theorem sizeList_drop_length (kids : List Node) : sizeList (kids.drop kids.length) = 0 := by
  simp [sizeList]

/-- the number of nodes below `n` that follow the subtree at `p` in document order -/
def outside : Node → Path → Nat
  | _, [] => 0
  | n, i :: p =>
    match (kidsOf n)[i]? with
    | some k => outside k p + sizeList ((kidsOf n).drop (i + 1))
    | none => 0

/-- the number of nodes from the one at `p` on, in document order -/
def rest (root : Node) (p : Path) : Nat :=
  match nodeAt root p with
  | some n => size n + outside root p
  | none => 0

theorem outside_snoc : ∀ {root : Node} {p : Path} {n k : Node} {i : Nat}, nodeAt root p = some n →
    (kidsOf n)[i]? = some k → outside root (p ++ [i]) = sizeList ((kidsOf n).drop (i + 1)) + outside root p
  | root, [], n, k, i, hn, hk => by
    simp [nodeAt] at hn; subst hn
    simp [outside, hk]
  | root, j :: p, n, k, i, hn, hk => by
    simp only [nodeAt] at hn
    cases hj : (kidsOf root)[j]? with
    | none => rw [hj] at hn; cases hn
    | some c =>
      rw [hj] at hn
      simp only [List.cons_append, outside, hj]
      rw [outside_snoc hn hk]; omega

theorem rest_snoc {root : Node} {p : Path} {n k : Node} {i : Nat} (hn : nodeAt root p = some n)
    (hk : (kidsOf n)[i]? = some k) : rest root (p ++ [i]) = sizeList ((kidsOf n).drop i) + outside root p := by
  unfold rest
  rw [nodeAt_snoc hn, hk, outside_snoc hn hk, sizeList_drop hk]
  simp only; omega

theorem rest_valid {root : Node} {p : Path} {n : Node} (hn : nodeAt root p = some n) :
    rest root p = size n + outside root p := by
  simp [rest, hn]

theorem rest_le : ∀ (root : Node) (p : Path), rest root p ≤ size root
  | root, [] => by simp [rest, nodeAt, outside]
  | root, i :: p => by
    unfold rest
    simp only [nodeAt, outside]
    cases hi : (kidsOf root)[i]? with
    | none => simp
    | some k =>
      simp only
      have h1 := rest_le k p
      unfold rest at h1
      cases hn : nodeAt k p with
      | none => simp
      | some n =>
        rw [hn] at h1
        simp only at h1 ⊢
        have h2 := sizeList_drop hi
        have h3 := sizeList_drop_le (kidsOf root) i
        have h4 := size_eq root
        omega

theorem nodeAt_snoc_inv {root : Node} {q : Path} {i : Nat} {n : Node} (h : nodeAt root (q ++ [i]) = some n) :
    ∃ pn, nodeAt root q = some pn ∧ (kidsOf pn)[i]? = some n := by
  cases hq : nodeAt root q with
  | none => rw [nodeAt_append, hq] at h; cases h
  | some pn => exact ⟨pn, rfl, by rw [nodeAt_snoc hq] at h; exact h⟩

theorem lenAt_pos {root : Node} {q : Path} {i : Nat} (h : i < lenAt root q) :
    ∃ pn k, nodeAt root q = some pn ∧ (kidsOf pn)[i]? = some k := by
  unfold lenAt at h
  cases hq : nodeAt root q with
  | none => rw [hq] at h; simp at h
  | some pn =>
    rw [hq] at h
    exact ⟨pn, (kidsOf pn)[i], rfl, by simp [h]⟩

theorem fetchFollowingSibling_snoc (root : Node) (q : Path) (i : Nat) :
    fetchFollowingSibling root (q ++ [i]) = if i + 1 < lenAt root q then some (q ++ [i + 1]) else none := by
  simp [fetchFollowingSibling]

theorem rest_sibling {root : Node} {p s : Path} {n : Node} (hn : nodeAt root p = some n)
    (hs : fetchFollowingSibling root p = some s) : rest root s ≤ outside root p := by
  rcases eq_nil_or_snoc p with rfl | ⟨q, i, rfl⟩
  · simp [fetchFollowingSibling] at hs
  · rw [fetchFollowingSibling_snoc] at hs
    split at hs
    · rename_i hlt
      cases hs
      obtain ⟨pn, hq, hi⟩ := nodeAt_snoc_inv hn
      obtain ⟨pn', k, hq', hk⟩ := lenAt_pos hlt
      rw [hq] at hq'; cases hq'
      rw [rest_snoc hq hk, outside_snoc hq hi]
      omega
    · cases hs

theorem outside_parent {root : Node} {q : Path} {i : Nat} {n : Node} (hn : nodeAt root (q ++ [i]) = some n) :
    outside root q ≤ outside root (q ++ [i]) := by
  obtain ⟨pn, hq, hi⟩ := nodeAt_snoc_inv hn
  rw [outside_snoc hq hi]; omega

theorem rest_nextSibling (root : Node) : ∀ (fuel : Nat) (p q : Path) (n : Node), nodeAt root p = some n →
    nextSiblingOfAnAncestor root fuel p = some q → rest root q ≤ outside root p
  | 0, p, q, n, hn, h => by simp [nextSiblingOfAnAncestor] at h
  | fuel + 1, p, q, n, hn, h => by
    rcases eq_nil_or_snoc p with rfl | ⟨par, i, rfl⟩
    · simp [nextSiblingOfAnAncestor, parentOf] at h
    · simp only [nextSiblingOfAnAncestor, parentOf_snoc] at h
      obtain ⟨pn, hpar, hi⟩ := nodeAt_snoc_inv hn
      have hle := outside_parent hn
      split at h
      · cases h
      · split at h
        · rename_i s hs
          cases h
          have := rest_sibling hpar hs
          omega
        · have := rest_nextSibling root fuel par q pn hpar h
          omega

theorem rest_following {root : Node} {p q : Path} {n : Node} (hn : nodeAt root p = some n)
    (hq : fetchFollowing root p = some q) : rest root q + 1 ≤ rest root p := by
  unfold fetchFollowing at hq
  rw [rest_valid hn]
  split at hq
  · rename_i hlen
    cases hq
    obtain ⟨pn, k, hp, hk⟩ := lenAt_pos hlen
    rw [hn] at hp; cases hp
    rw [rest_snoc hn hk, size_eq]
    simp
    omega
  · have := size_pos n
    split at hq
    · rename_i s hs
      cases hq
      have := rest_sibling hn hs
      omega
    · have := rest_nextSibling root _ p q n hn hq
      omega

end Delb.Wrapping
