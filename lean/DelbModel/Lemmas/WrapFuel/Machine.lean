import DelbModel.Lemmas.WrapFuel.Leaves
import DelbModel.Lemmas.PrefixesTotal
/-!
# The recursive methods of the text-wrapping serializer: layout, budget and totality in one walk

`serialize_node` → `_serialize_tag` → `PrettySerializer._serialize_tag` → `_handle_child_nodes` →
`_serialize_child_nodes` (one step per child) → `serialize_node`; `serialize_node` calls itself once more
after a line break (then at the beginning of a line, where it does not do that again): a budget of `6 * size node`
suffices for a node.
-/
namespace Delb.Wrapping
open Delb.Ser Delb.WS Delb.Pretty

theorem isText_of_isTag {n : Node} (h : n.isTag = true) : n.isText = false := by
  cases n <;> first | rfl | cases h

/-- the outcome of a method: layout pieces are whitespace, no text node is pending -/
def Done (L : Prop) (st' : St) : Prop := LWif L st' ∧ st'.unwritten = []

section
variable {A B L : Prop} (e : Env) (hA : A → 3 * size e.root + 1 ≤ e.fuel) (hB : B → EnvOk e)
  (hL : L → AllWs e.o.indent)
include hA hB hL

theorem machine_run : ∀ fuel,
    (∀ p node st, nodeAt e.root p = some node →
      (A → 6 * size node ≤ fuel ∨ (st.offset = 0 ∧ st.unwritten = [] ∧ 6 * size node ≤ fuel + 1)) →
      (B → node.isText = false ∧ InvU e st) → LWif L st →
      Tot (Bad A B) (serializeNode e fuel p st) (Done L)) ∧
    (∀ p node ad st, nodeAt e.root p = some node → (A → 6 * size node ≤ fuel + 2) →
      (B → node.isTag = true ∧ st.unwritten = []) → LWif L st → Tot (Bad A B) (serializeTag e fuel p ad st) (fun st' => LWif L st' ∧ (st.unwritten = [] → st'.unwritten = []))) ∧
    (∀ p node ad st, nodeAt e.root p = some node → (A → 6 * size node ≤ fuel + 3) →
      (B → node.isTag = true ∧ st.unwritten = []) → LWif L st →
      Tot (Bad A B) (prettySerializeTag e fuel p ad st) (fun st' => LWif L st' ∧ (st.unwritten = [] → st'.unwritten = []))) ∧
    (∀ p ns name attrs kids st, nodeAt e.root p = some (.tag ns name attrs kids) → (A → 6 * sizeList kids + 2 ≤ fuel) →
      (B → st.unwritten = []) → LWif L st → Tot (Bad A B) (handleChildNodes e fuel p kids.length st) (Done L)) ∧
    (∀ p ns name attrs kids i st, nodeAt e.root p = some (.tag ns name attrs kids) →
      (A → 6 * sizeList (kids.drop i) + 1 ≤ fuel) → (B → InvU e st) → LWif L st →
      Tot (Bad A B) (serializeChildNodes e fuel p i kids.length st) (Done L)) := by
  intro fuel
  induction fuel with
  | zero =>
    refine ⟨?_, ?_, ?_, ?_, ?_⟩
    · intro p node st _ h _ _
      rw [serializeNode_zero]; exact bad_fuel (fun a => by have := h a; have := size_pos node; omega)
    · intro p node ad st _ h _ _
      rw [serializeTag_zero]; exact bad_fuel (fun a => by have := h a; have := size_pos node; omega)
    · intro p node ad st _ h _ _
      rw [prettySerializeTag_zero]; exact bad_fuel (fun a => by have := h a; have := size_pos node; omega)
    · intro p ns name attrs kids st _ h _ _
      rw [handleChildNodes_zero]; exact bad_fuel (fun a => by have := h a; omega)
    · intro p ns name attrs kids i st _ h _ _
      rw [serializeChildNodes_zero]; exact bad_fuel (fun a => by have := h a; omega)
  | succ fuel ih =>
    obtain ⟨ihN, ihT, ihP, ihH, ihC⟩ := ih
    -- `serialize_node` once pending text is written; after a line break the node is tried once more
    have hstep : ∀ p node st, nodeAt e.root p = some node → st.unwritten = [] → LWif L st →
        (A → 6 * size node ≤ fuel + 1 + 1 ∧ (lineOffset e st > 0 → 6 * size node ≤ fuel + 1)) →
        (B → node.isText = false) → Tot (Bad A B) (nodeStep e fuel p node st) (Done L) := by
      intro p node st hnode hu hs hf hnt
      unfold nodeStep
      refine Tot_bind_of (nodeFitsRemainingLine_run e hA hB st ⟨_, hnode⟩) (fun fits _ _ => ?_)
      refine Tot_ite (fun _ => ?_) (fun _ => Tot_ite (fun hc => ?_) (fun _ => ?_))
      · refine Tot_bind_of (serializeAppendableNode_run e hB hL hnode hnt hs) (fun st1 _ h1 => ?_)
        refine Tot_ite (fun _ => ⟨h1.1.write LW_nl, by simp [h1.2, hu]⟩) (fun _ => ?_)
        exact Tot_mono (afterNode_run e hA hB _ h1.1) (fun st2 _ h2 => ⟨h2.1, by rw [h2.2, h1.2, hu]⟩)
      · -- line break, then once more
        simp only [Bool.and_eq_true, decide_eq_true_eq] at hc
        exact ihN p node _ hnode
          (fun a => Or.inr ⟨write_nl_offset_zero st (lineOffset_pos hc.1), by simp [hu], (hf a).2 hc.1⟩)
          (fun b => ⟨hnt b, invU_nil e (by simp [hu])⟩) (hs.write LW_nl)
      · generalize hst0 : (if (!e.o.indent.isEmpty && st.offset == 0 && legitBefore e.root p) = true then
            write st [.layout (indentN e.o st.level)] else st) = st0
        have h0 : LWif L st0 ∧ st0.unwritten = [] := by
          rw [← hst0]; split
          · exact ⟨fun l => write_LW (hs l) (LW_cons_layout (allWs_indentN e.o (hL l) _) LW_nil), by simp [hu]⟩
          · exact ⟨hs, hu⟩
        have hk : ∀ st1 : St, LWif L st1 → st1.unwritten = [] →
            Tot (Bad A B) (afterNode e p { st1 with preserveSpace := false }) (Done L) :=
          fun st1 h1 hu1 => Tot_mono (afterNode_run e hA hB p (st := { st1 with preserveSpace := false }) h1)
            (fun st2 _ h2 => ⟨h2.1, by rw [h2.2]; exact hu1⟩)
        unfold plainNodeK
        split
        · rename_i ns name attrs kids
          refine Tot_bind_of (attrsData_run e.m (fun b => envOk_sub (hB b) hnode)) (fun ad _ _ => ?_)
          have hpre : ∀ c : Bool, LWif L (if c = true then { st0 with preserveSpace := true } else st0) ∧
              (if c = true then { st0 with preserveSpace := true } else st0).unwritten = [] := by
            intro c
            cases c
            · exact h0
            · exact h0
          exact Tot_bind_of (ihT p _ ad _ hnode (fun a => by have := (hf a).1; omega) (fun _ => ⟨rfl, (hpre _).2⟩)
            (hpre _).1) (fun st1 _ h1 => hk st1 h1.1 (h1.2 (hpre _).2))
        · exact hk _ (h0.1.write (LW_single_other (by intro s; simp))) (by simp [h0.2])
        · exact hk _ (h0.1.write (LW_single_other (by intro s; simp))) (by simp [h0.2])
        · refine hk _ ?_ ?_
          · split
            · exact h0.1
            · exact h0.1.write (LW_single_other (by intro s; simp))
          · split
            · exact h0.2
            · simp [h0.2]
    refine ⟨?_, ?_, ?_, ?_, ?_⟩
    · intro p node st hnode hf hb hs
      rw [serializeNode_succ, getNode_eq hnode, ok_bind]
      refine Tot_ite (fun hemp => ?_) (fun hemp => ?_)
      · have hu : st.unwritten = [] := by simpa using hemp
        refine hstep p node st hnode hu hs (fun a => ⟨?_, fun hpos => ?_⟩) (fun b => (hb b).1)
        · rcases hf a with h | h <;> omega
        · rcases hf a with h | h
          · exact h
          · exact absurd h.1 (lineOffset_pos hpos)
      · refine Tot_bind_of (serializeText_run e hA hB hL hs (fun b => (hb b).2) (by simpa using hemp))
          (fun st1 _ h1 => ?_)
        refine hstep p node st1 hnode h1.2 h1.1 (fun a => ?_) (fun b => (hb b).1)
        rcases hf a with h | h
        · exact ⟨by omega, fun _ => h⟩
        · exact absurd h.2.1 (by simpa using hemp)
    · intro p node ad st hnode hf hb hs
      rw [serializeTag_succ]
      refine Tot_bind_of (nodeFitsRemainingLine_run e hA hB st ⟨_, hnode⟩) (fun fits _ _ => ?_)
      refine Tot_ite (fun _ => ?_) (fun _ => ihP p node ad st hnode (fun a => by have := hf a; omega) hb hs)
      exact Tot_mono (serializeAppendableNode_run e hB hL hnode (fun b => isText_of_isTag (hb b).1) hs)
        (fun st1 _ h1 => ⟨h1.1, fun hu => by rw [h1.2, hu]⟩)
    · intro p node ad st hnode hf hb hs
      rw [prettySerializeTag_succ, getNode_eq hnode, ok_bind]
      cases node with
      | tag ns name attrs kids =>
        have hns := fun b => envOk_sub (hB b) hnode
        refine Tot_ite (fun _ => ?_) (fun _ => ?_)
        · refine Tot_bind_of (emitNode_run e.m _ hns) (fun toks _ _ => ?_)
          exact ⟨writeToks_run hs _, fun hu => by simp [hu]⟩
        · unfold defaultTag
          refine Tot_bind_of (pfx_run e.m ns (fun b => hns b ns (by simp [treeNamespaces]))) (fun pr _ _ => ?_)
          have h1 : ∀ sc, LWif L (write st [.stag (pr ++ name).toList (layoutAttrs e.o st.level ad).1
              (layoutAttrs e.o st.level ad).2 sc]) := fun sc => hs.write (LW_single_other (by intro s; simp))
          refine Tot_ite (fun _ => ⟨h1 _, fun hu => by simp [hu]⟩) (fun _ => ?_)
          refine Tot_bind_of (ihH p ns name attrs kids _ hnode
            (fun a => by have := hf a; simp only [size] at this; omega) ?_ (h1 _)) (fun st1 _ hd => ?_)
          · exact fun b => by rw [write_unwritten]; exact (hb b).2
          · exact ⟨hd.1.write (LW_single_other (by intro s; simp)), fun _ => by simp [hd.2]⟩
      | _ => exact bad_lit (by decide +kernel) (fun b => by cases (hb b).1)
    · intro p ns name attrs kids st hnode hf hb hs
      rw [handleChildNodes_succ]
      refine Tot_bind_of (ihC p ns name attrs kids 0 _ hnode (fun a => by simpa using by have := hf a; omega)
        (fun b => invU_nil e ?_) ?_) (fun st1 _ hd => ?_)
      · show (if _ then _ else _ : St).unwritten = []
        split
        · rw [write_unwritten]; exact hb b
        · exact hb b
      · show LWif L (if _ then _ else _ : St)
        split
        · exact hs.write LW_nl
        · exact hs
      · split
        · exact ⟨fun l => write_LW (st := { st1 with level := st1.level - 1 }) (hd.1 l)
            (LW_cons_layout (allWs_indentN e.o (hL l) _) LW_nil), by simp [hd.2]⟩
        · exact hd
    · intro p ns name attrs kids i st hnode hf hb hs
      by_cases hi : i ≥ kids.length
      · rw [serializeChildNodes_done st hi]
        exact Tot_ite (fun hemp => ⟨hs, by simpa using hemp⟩)
          (fun hemp => serializeText_run e hA hB hL hs hb (by simpa using hemp))
      · have hlt : i < kids.length := by omega
        have hd : sizeList (kids.drop i) = size kids[i] + sizeList (kids.drop (i + 1)) :=
          sizeList_drop (by simp [hlt])
        have hpos := size_pos kids[i]
        have hkid := nodeAt_kid_lt hnode hlt
        rcases (kids[i]).text_or_not with ⟨s, hs'⟩ | hnt
        · rw [hs'] at hkid
          rw [serializeChildNodes_text st hkid hlt]
          refine ihC p ns name attrs kids (i + 1) _ hnode (fun a => by have := hf a; omega) (fun b => ?_) ?_
          · split
            · exact hb b
            · rename_i hse
              intro q hq
              simp only [List.mem_append, List.mem_singleton] at hq
              rcases hq with hq | rfl
              · exact hb b q hq
              · exact ⟨s, hkid, by simpa using hse⟩
          · split
            · exact hs
            · exact hs
        · rw [serializeChildNodes_nontext st hkid hnt hlt]
          refine Tot_bind_of (ihN (p ++ [i]) _ st hkid (fun a => Or.inl (by have := hf a; omega))
            (fun b => ⟨hnt, hb b⟩) hs) (fun st1 _ h1 => ?_)
          exact ihC p ns name attrs kids (i + 1) _ hnode (fun a => by have := hf a; omega)
            (fun _ => invU_nil e h1.2) h1.1
end

theorem wrapRoot_run {B L : Prop} (o : Opts) (width : Nat) (m : Dict) (root : Node) (hL : L → AllWs o.indent)
    (hB : B → root.isTag = true ∧ ∀ ns ∈ treeNamespaces root, (dget m ns).isSome) :
    Tot (Bad True B) (wrapRoot o width m root) (fun ps => L → LW ps) := by
  unfold wrapRoot
  split
  · rename_i ns name attrs kids
    have h1 := attrsData_run (A := True) m (ns := ns) (name := name) (kids := kids) (fun b => (hB b).2)
    split
    · rename_i err h; rw [h] at h1; exact h1
    · rename_i ad _
      simp only
      generalize hroot : Node.tag ns name attrs kids = root at hB
      have := (machine_run (A := True) (L := L) { o := o, width := width, m := m, root := root, fuel := fuelFor root }
        (fun _ => by simp only [fuelFor]; omega) (fun b => (hB b).2) hL (fuelFor root)).2.1 [] root
        (declarations m ++ ad) {} rfl (fun _ => by simp only [fuelFor]; omega) (fun b => ⟨(hB b).1, rfl⟩)
        (fun _ => LW_nil)
      split
      · rename_i err h; rw [h] at this; exact this
      · rename_i st h; rw [h] at this; exact this.1
  · rename_i hx
    refine bad_lit (by decide +kernel) (fun b => ?_)
    cases root with
    | tag ns name attrs kids => exact hx _ _ _ _ rfl
    | _ => cases (hB b).1

theorem wrapRoot_layout (o : Opts) (ho : AllWs o.indent) (width : Nat) (m : Dict) (t : Node)
    (ps : List Piece) (h : wrapRoot o width m t = .ok ps) : LW ps :=
  (wrapRoot_run (B := False) (L := True) o width m t (fun _ => ho) (fun b => b.elim)).post ps h trivial

theorem wrapRoot_noFuel (o : Opts) (width : Nat) (m : Dict) (root : Node) :
    wrapRoot o width m root ≠ .error (.invalidCodePath "fuel") :=
  (wrapRoot_run (B := False) (L := False) o width m root (fun l => l.elim) (fun b => b.elim)).noFuel

theorem wrapRoot_total (o : Opts) (width : Nat) (m : Dict) (root : Node) (htag : root.isTag = true)
    (hm : ∀ ns ∈ treeNamespaces root, (dget m ns).isSome) : ∃ out, wrapRoot o width m root = .ok out := by
  obtain ⟨out, h, _⟩ := (wrapRoot_run (B := True) (L := False) o width m root (fun l => l.elim)
    (fun _ => ⟨htag, hm⟩)).sure
  exact ⟨out, h⟩

/-! ## `TagNode.serialize` with format options: collecting the prefixes first -/

theorem newDecl_noFuel (nsmap m : Dict) (ns : String) : NoFuel (newDecl nsmap m ns) := by
  unfold newDecl
  split
  · trivial
  · exact noFuel_error (by decide +kernel)

theorem collectOne_noFuel (nsmap m : Dict) (ns : String) : NoFuel (collectOne nsmap m ns) := by
  cases h : collectOne nsmap m ns with
  | ok _ => trivial
  | error err =>
    rcases (collectOne_error h).2 with ⟨s, rfl⟩ | ⟨x, hx⟩
    · exact noFuel_error nofun
    · have := newDecl_noFuel nsmap m x
      rw [hx] at this; exact this

theorem collectMany_noFuel (nsmap : Dict) : ∀ (m : Dict) (l : List String), NoFuel (collectMany nsmap m l)
  | m, [] => trivial
  | m, ns :: rest => by
    rw [collectMany]
    have := collectOne_noFuel nsmap m ns
    split
    · rename_i err h; rw [h] at this; exact this
    · exact collectMany_noFuel nsmap _ rest

theorem collectNodes_noFuel (nsmap : Dict) : ∀ (m : Dict) (l : List (List String)), NoFuel (collectNodes nsmap m l)
  | m, [] => trivial
  | m, nss :: rest => by
    rw [collectNodes]
    have := collectMany_noFuel nsmap m nss
    split
    · rename_i err h; rw [h] at this; exact this
    · exact collectNodes_noFuel nsmap _ rest

theorem serializeWrapped_noFuel (o : Opts) (width : Nat) (hw : 1 ≤ width) (nsmap : Dict) (root : Node)
    (orders : List (List String)) :
    serializeWrapped o width nsmap root orders ≠ .error (.invalidCodePath "fuel") := by
  unfold serializeWrapped
  have h1 : NoFuel (collect nsmap root orders) := collectNodes_noFuel _ _ _
  split
  · rename_i err h
    rw [h] at h1
    intro h2; cases h2; exact h1 rfl
  · have : (width == 0) = false := by simp; omega
    simp only [this, Bool.false_eq_true, if_false]
    exact wrapRoot_noFuel o width _ root

end Delb.Wrapping
