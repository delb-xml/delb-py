import DelbModel.Lemmas.WrapFuel.Basic
/-!
# The one-sided readings of a run

`OF x Q`: the run `x` ends in a result with `Q` or in the budget error; `Sure x Q`: it ends in a result with `Q`.
The walk through the serializer (`Machine.lean`) has both at once in `Tot (Bad A B)` and uses neither name.
-/
namespace Delb.Wrapping
open Delb.Ser

abbrev OF {α : Type} (x : Except Err α) (Q : α → Prop) : Prop := Tot (· = fuelErr) x Q
abbrev Sure {α : Type} (x : Except Err α) (Q : α → Prop) : Prop := Tot (fun _ => False) x Q

theorem sure_pure {α : Type} {a : α} {Q : α → Prop} (h : Q a) : Sure (pure a : Except Err α) Q := h
theorem of_pure {α : Type} {a : α} {Q : α → Prop} (h : Q a) : OF (pure a : Except Err α) Q := h

end Delb.Wrapping
