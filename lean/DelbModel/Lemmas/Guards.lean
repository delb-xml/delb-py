import DelbModel.Model.Guards
namespace Delb.Guards
open Delb.Edit

theorem hasSub_iff (sub s : Str) : hasSub sub s = true ↔ ∃ pre post, s = pre ++ sub ++ post := by
  have h : hasSub sub s = true ↔ sub <:+: s := by
    induction s with
    | nil => simp [hasSub]
    | cons c cs ih => simp only [hasSub, Bool.or_eq_true, ih, List.isPrefixOf_iff_prefix, List.infix_cons_iff]
  rw [h]
  exact ⟨fun ⟨a, b, e⟩ => ⟨a, b, e.symm⟩, fun ⟨a, b, e⟩ => ⟨a, b, e.symm⟩⟩

theorem getLast?_ne_iff (s : Str) (x : Char) :
    s.getLast? ≠ some x ↔ (s = [] ∨ ∃ pre c, s = pre ++ [c] ∧ c ≠ x) := by
  rcases List.eq_nil_or_concat s with rfl | ⟨pre, c, rfl⟩
  · simp
  · simp only [List.concat_eq_append, List.getLast?_append, List.getLast?_singleton, Option.some_or, ne_eq,
      Option.some.injEq, List.append_eq_nil_iff, List.cons_ne_self, and_false, false_or]
    constructor
    · intro h; exact ⟨pre, c, rfl, h⟩
    · rintro ⟨pre', c', h, hc⟩
      have := List.append_inj' h (by simp)
      simp at this
      rw [this.2]; exact hc

end Delb.Guards
