import DelbModel.Lemmas.Pretty
/-!
# The layout of C18 said declaratively

The name column of an aligned start tag is as wide as the longest name, and every padded name fills it; `ppRefKids`
concatenates the outputs of the non-text children; `ppRef` on an element by the shape of its child list.
-/
namespace Delb.Pretty
open Delb.Ser Delb.WS

theorem nameWidth_max (ad : List (Str × Str)) : (0 :: ad.map (·.1.length)).max? = some (nameWidth ad) :=
  List.max?_cons'

theorem nameWidth_le {ad : List (Str × Str)} {kv : Str × Str} (h : kv ∈ ad) : kv.1.length ≤ nameWidth ad :=
  (List.max?_le_iff (nameWidth_max ad)).1 (Nat.le_refl _) _
    (List.mem_cons_of_mem _ (List.mem_map.2 ⟨kv, h, rfl⟩))

theorem nameWidth_attained {ad : List (Str × Str)} (h : ad ≠ []) : ∃ kv ∈ ad, kv.1.length = nameWidth ad := by
  rcases List.mem_cons.1 (List.max?_mem (nameWidth_max ad)) with h0 | hm
  · obtain ⟨kv, rest, rfl⟩ := List.exists_cons_of_ne_nil h
    exact ⟨kv, by simp, Nat.le_antisymm (nameWidth_le (by simp)) (h0 ▸ Nat.zero_le _)⟩
  · obtain ⟨kv, hkv, he⟩ := List.mem_map.1 hm
    exact ⟨kv, hkv, he⟩

theorem namePad_spaces (ad : List (Str × Str)) (kv : Str × Str) : ∀ c ∈ namePad ad kv, c = ' ' := by
  intro c hc
  exact (List.mem_replicate.1 hc).2

theorem namePad_length {ad : List (Str × Str)} {kv : Str × Str} (h : kv ∈ ad) :
    (namePad ad kv ++ kv.1).length = nameWidth ad := by
  have := nameWidth_le h
  simp only [namePad, List.length_append, List.length_replicate]
  omega

theorem aligned_cond {o : Opts} {ad : List (Str × Str)} (hal : o.align = true) (hn : ad.length > 1) :
    (o.align && decide (ad.length > 1)) = true := by simp [hal, hn]

theorem unaligned_cond {o : Opts} {ad : List (Str × Str)} (h : o.align = false ∨ ad.length ≤ 1) :
    ¬ (o.align && decide (ad.length > 1)) = true := by
  rcases h with h | h
  · simp [h]
  · simp only [Bool.and_eq_true, decide_eq_true_eq, not_and]
    intro _; omega

theorem render_stag_piece (o : Opts) (hi : o.indent ≠ []) (level : Nat) (qn : Str) (ad : List (Str × Str))
    (sc : Bool) :
    indentN o level ++ renderPiece (.stag qn (layoutAttrs o level ad).1 (layoutAttrs o level ad).2 sc)
      = joinLines (refStartTag o level qn ad (if sc then ['/', '>'] else ['>'])) := by
  rw [← render_startTag o hi]
  simp [renderPiece]

/-- the attribute data a non-root child is written with (`_generate_attributes_data`) -/
def childAttrs (m : Dict) : Node → List (Str × Str)
  | .tag _ _ attrs _ => (attrsData m (sortAttrs attrs)).toOption.getD []
  | _ => []

theorem ppRefKids_cons (o : Opts) (m : Dict) (level : Nat) (k : Node) (rest : List Node) :
    ppRefKids o m level (k :: rest) = ppRef o m level (childAttrs m k) k ++ ppRefKids o m level rest := by
  cases k <;> simp [ppRefKids, childAttrs]

theorem ppRefKids_eq_filter (o : Opts) (m : Dict) (level : Nat) (kids : List Node) :
    ppRefKids o m level kids
      = (kids.filter (fun k => !k.isText)).flatMap (fun k => ppRef o m level (childAttrs m k) k) := by
  induction kids using kids_induct with
  | nil => simp [ppRefKids]
  | text s rest ih => rw [ppRefKids_cons, ih]; simp
  | node k rest hk ih => rw [ppRefKids_cons, ih]; simp [hk]

theorem dataKids_mem : ∀ (l : List Node) (b : Bool), dataKids b l = true →
    ∀ k ∈ l, (k.isText = true → k = .text [' ']) ∧ (k.isText = false → dataStyle k = true) := by
  intro l
  induction l using kids_induct with
  | nil => intro _ _ k hk; cases hk
  | text s rest ih =>
    intro b h k hk
    obtain ⟨_, hs, _, hd⟩ := dataKids_text h
    rcases List.mem_cons.1 hk with rfl | hk
    · exact ⟨fun _ => by rw [hs], fun hnt => by cases hnt⟩
    · exact ih true hd k hk
  | node k0 rest hk0 ih =>
    intro b h k hk
    obtain ⟨_, hd, hr⟩ := dataKids_node hk0 h
    rcases List.mem_cons.1 hk with rfl | hk
    · exact ⟨fun ht => (by rw [hk0] at ht; cases ht), fun _ => hd⟩
    · exact ih false hr k hk

theorem dataKids_true_head {l : List Node} (h : dataKids true l = true) (hne : l ≠ []) :
    ∃ k rest, l = k :: rest ∧ k.isText = false := by
  obtain ⟨k, rest, rfl⟩ := List.exists_cons_of_ne_nil hne
  rcases k.text_or_not with ⟨s, rfl⟩ | hk
  · cases (dataKids_text h).1
  · exact ⟨k, rest, rfl, hk⟩

theorem ppRef_no_kids (o : Opts) (m : Dict) (level : Nat) (ad : List (Str × Str)) (ns name : String)
    (attrs : List Attr) :
    ppRef o m level ad (.tag ns name attrs [])
      = refStartTag o level ((dget m ns).getD "" ++ name).toList ad ['/', '>'] := by
  rw [ppRef.eq_1]

theorem ppRef_one_text (o : Opts) (m : Dict) (level : Nat) (ad : List (Str × Str)) (ns name : String)
    (attrs : List Attr) (s : Str) :
    ppRef o m level ad (.tag ns name attrs [.text s])
      = refStartTag o level ((dget m ns).getD "" ++ name).toList ad ['>']
        ++ (if (strip pyWs (normText s)).isEmpty then []
            else [indentN o (level + 1) ++ escapeText (strip pyWs (normText s))])
        ++ [indentN o level ++ ['<', '/'] ++ ((dget m ns).getD "" ++ name).toList ++ ['>']] := by
  rw [ppRef.eq_2]

theorem ppRef_node_kids (o : Opts) (m : Dict) (level : Nat) (ad : List (Str × Str)) (ns name : String)
    (attrs : List Attr) (k : Node) (rest : List Node) (hk : k.isText = false) :
    ppRef o m level ad (.tag ns name attrs (k :: rest))
      = refStartTag o level ((dget m ns).getD "" ++ name).toList ad ['>']
        ++ ((k :: rest).filter (fun c => !c.isText)).flatMap
              (fun c => ppRef o m (level + 1) (childAttrs m c) c)
        ++ [indentN o level ++ ['<', '/'] ++ ((dget m ns).getD "" ++ name).toList ++ ['>']] := by
  rw [ppRef.eq_3 _ _ _ _ _ _ _ _ (by simp) (fun s hs => Node.ne_text hk s (List.cons.inj hs).1), ppRefKids_eq_filter]

end Delb.Pretty
