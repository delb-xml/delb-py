import DelbModel.Model.Nav
import DelbModel.Lemmas.Nav.Sibling
import DelbModel.Lemmas.Nav.Tree
import DelbModel.Lemmas.Nav.Partition
/-!
# Navigation on the encoding and on plain trees (C05)

* `Nav/Sibling.lean` — `walkFrom` enumerates the visible children (on top of `LocAt.*` in `Lemmas/Edit/Locate.lean`)
* `Nav/Tree.lean` — `descLoop`, `fullText`, `lastDescendant`, `postorder`, `bfLoop` against `preorder`
* `Nav/Partition.lean` — `following`, `preceding` of a node against those of its parent; `partition`

The lemmas on the document order of paths (`pathLt`, `sortPaths`) are in `Lemmas/XPathEval/`.
-/
