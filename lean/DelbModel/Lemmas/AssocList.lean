import DelbModel.Lemmas.General
/-!
# Insertion-ordered association lists

Lookup, assignment (an existing key keeps its position) and removal on `List (κ × ν)`, with their laws.
The attribute model has these three functions at three types (store, cache of views, specification dictionary);
the serializer's `dget` / `dset` are `get` / `set` at strings (`Lemmas/Dict.lean`), and `lookupAttr` of the tree
comparison is `get` on the attributes as entries (`Lemmas/Compare.lean`).
-/
namespace Delb

namespace Assoc
variable {κ κ' ν : Type} [BEq κ] [LawfulBEq κ]

def get : List (κ × ν) → κ → Option ν
  | [], _ => none
  | (k', v) :: rest, k => if k' == k then some v else get rest k

def set : List (κ × ν) → κ → ν → List (κ × ν)
  | [], k, v => [(k, v)]
  | (k', v') :: rest, k, v => if k' == k then (k, v) :: rest else (k', v') :: set rest k v

def del (l : List (κ × ν)) (k : κ) : List (κ × ν) := l.filter (fun e => e.1 != k)

section
variable [DecidableEq κ]

theorem get_set (l : List (κ × ν)) (k k' : κ) (v : ν) :
    get (set l k v) k' = if k' = k then some v else get l k' := by
  induction l with
  | nil => by_cases h : k' = k <;> simp [set, get, h, Ne.symm]
  | cons e rest ih =>
    obtain ⟨k₀, v₀⟩ := e
    by_cases h : k₀ = k
    · subst h; by_cases h' : k' = k₀ <;> simp [set, get, h', Ne.symm]
    · by_cases h' : k₀ = k'
      · subst h'; simp [set, get, h]
      · simp [set, get, h, h', ih]

theorem get_del (l : List (κ × ν)) (k k' : κ) :
    get (del l k) k' = if k' = k then none else get l k' := by
  induction l with
  | nil => simp [del, get]
  | cons e rest ih =>
    obtain ⟨k₀, v₀⟩ := e
    unfold del at ih ⊢
    by_cases h : k₀ = k
    · subst h
      by_cases h' : k' = k₀
      · subst h'; simpa using ih
      · simp [ih, h', get, Ne.symm h']
    · by_cases h' : k₀ = k'
      · subst h'; simp [h, get]
      · simp [h, get, h', ih]

end

omit [LawfulBEq κ] in
theorem mem_set {l : List (κ × ν)} {k : κ} {v : ν} {e : κ × ν} (h : e ∈ set l k v) : e.1 = k ∨ e ∈ l := by
  induction l with
  | nil => simp [set] at h; exact .inl (by rw [h])
  | cons e' rest ih =>
    obtain ⟨k₀, v₀⟩ := e'
    unfold set at h
    split at h
    · rcases List.mem_cons.1 h with h | h
      · exact .inl (by rw [h])
      · exact .inr (List.mem_cons_of_mem _ h)
    · rcases List.mem_cons.1 h with h | h
      · exact .inr (h ▸ List.mem_cons_self)
      · exact (ih h).imp_right (List.mem_cons_of_mem _)

theorem keys_set_nodup {l : List (κ × ν)} (k : κ) (v : ν) (h : (l.map (·.1)).Nodup) :
    ((set l k v).map (·.1)).Nodup := by
  induction l with
  | nil => simp [set]
  | cons e rest ih =>
    obtain ⟨k₀, v₀⟩ := e
    simp only [List.map_cons, List.nodup_cons] at h
    unfold set
    split
    · rename_i hk
      rw [eq_of_beq hk] at h
      simpa only [List.map_cons, List.nodup_cons] using h
    · rename_i hk
      simp only [List.map_cons, List.nodup_cons]
      refine ⟨fun hm => ?_, ih h.2⟩
      obtain ⟨e, he, rfl⟩ := List.mem_map.1 hm
      rcases mem_set he with h' | h'
      · exact hk (by rw [h']; exact BEq.rfl)
      · exact h.1 (List.mem_map.2 ⟨e, h', rfl⟩)

theorem mem_of_get {l : List (κ × ν)} {k : κ} {v : ν} (h : get l k = some v) : (k, v) ∈ l := by
  induction l with
  | nil => cases h
  | cons e rest ih =>
    obtain ⟨k₀, v₀⟩ := e
    unfold get at h
    split at h
    · rename_i hk
      cases h
      rw [eq_of_beq hk]
      exact List.mem_cons_self
    · exact List.mem_cons_of_mem _ (ih h)

theorem get_of_mem {l : List (κ × ν)} (hn : (l.map (·.1)).Nodup) {k : κ} {v : ν} (h : (k, v) ∈ l) :
    get l k = some v := by
  induction l with
  | nil => cases h
  | cons e rest ih =>
    obtain ⟨k₀, v₀⟩ := e
    simp only [List.map_cons, List.nodup_cons] at hn
    rcases List.mem_cons.1 h with h | h
    · cases h; simp [get]
    · have hne : k₀ ≠ k := fun e => hn.1 (e ▸ List.mem_map.2 ⟨(k, v), h, rfl⟩)
      simp [get, hne, ih hn.2 h]

theorem get_eq_some_iff {l : List (κ × ν)} (hn : (l.map (·.1)).Nodup) {k : κ} {v : ν} :
    get l k = some v ↔ (k, v) ∈ l := ⟨mem_of_get, get_of_mem hn⟩

theorem del_set_comm (l : List (κ × ν)) {n o : κ} (x : ν) (hne : n ≠ o) :
    del (set l n x) o = set (del l o) n x := by
  induction l with
  | nil => simp [set, del, hne]
  | cons e rest ih =>
    obtain ⟨k₀, v₀⟩ := e
    unfold del at ih ⊢
    by_cases h1 : k₀ = n
    · subst h1; simp [set, hne]
    · by_cases h2 : k₀ = o
      · subst h2; simp [set, h1, ih]
      · simp [set, h1, h2, ih]

theorem same_entries_iff {l₁ l₂ : List (κ × ν)} (h₁ : (l₁.map (·.1)).Nodup) (h₂ : (l₂.map (·.1)).Nodup) :
    (∀ e, e ∈ l₁ ↔ e ∈ l₂) ↔ l₁.length = l₂.length ∧ ∀ e ∈ l₁, e ∈ l₂ := by
  have keys : ∀ {a b : List (κ × ν)}, (∀ e ∈ a, e ∈ b) → a.map (·.1) ⊆ b.map (·.1) := by
    intro a b h k hk
    obtain ⟨e, he, rfl⟩ := List.mem_map.1 hk
    exact List.mem_map.2 ⟨e, h e he, rfl⟩
  constructor
  · intro h
    have a := h₁.length_le_of_subset (keys fun e => (h e).1)
    have b := h₂.length_le_of_subset (keys fun e => (h e).2)
    rw [List.length_map, List.length_map] at a b
    exact ⟨Nat.le_antisymm a b, fun e => (h e).1⟩
  · rintro ⟨hlen, hsub⟩ ⟨k, v⟩
    refine ⟨hsub _, fun he => ?_⟩
    have hback := subset_of_nodup_of_length_le h₁ (keys hsub) (by rw [List.length_map, List.length_map, hlen]; exact Nat.le_refl _)
    obtain ⟨⟨k', v'⟩, he', rfl⟩ := List.mem_map.1 (hback (List.mem_map.2 ⟨(k, v), he, rfl⟩))
    have := get_of_mem h₂ (hsub _ he')
    rw [get_of_mem h₂ he] at this
    cases this
    exact he'

section map
variable [BEq κ'] [LawfulBEq κ'] (f : κ → κ')

def mapKeys (l : List (κ × ν)) : List (κ' × ν) := l.map (fun e => (f e.1, e.2))

variable {f} {l : List (κ × ν)} {k : κ} (hl : ∀ e ∈ l, f e.1 = f k → e.1 = k)
include hl

theorem get_mapKeys : get (mapKeys f l) (f k) = get l k := by
  induction l with
  | nil => rfl
  | cons e rest ih =>
    have ih := ih (fun e he => hl e (List.mem_cons_of_mem _ he))
    have h0 := hl e List.mem_cons_self
    by_cases h : e.1 = k
    · simp [mapKeys, get, h]
    · have h' : ¬ f e.1 = f k := fun e' => h (h0 e')
      simpa [mapKeys, get, h, h'] using ih

theorem set_mapKeys (v : ν) : mapKeys f (set l k v) = set (mapKeys f l) (f k) v := by
  induction l with
  | nil => rfl
  | cons e rest ih =>
    have ih := ih (fun e he => hl e (List.mem_cons_of_mem _ he))
    have h0 := hl e List.mem_cons_self
    by_cases h : e.1 = k
    · simp [mapKeys, set, h]
    · have h' : ¬ f e.1 = f k := fun e' => h (h0 e')
      simpa [mapKeys, set, h, h'] using ih

theorem del_mapKeys : mapKeys f (del l k) = del (mapKeys f l) (f k) := by
  induction l with
  | nil => rfl
  | cons e rest ih =>
    have ih := ih (fun e he => hl e (List.mem_cons_of_mem _ he))
    have h0 := hl e List.mem_cons_self
    unfold del mapKeys at ih ⊢
    by_cases h : e.1 = k
    · simp [h, ih]
    · have h' : ¬ f e.1 = f k := fun e' => h (h0 e')
      simp [h, h', ih]

end map

end Assoc

end Delb
