import DelbModel.Model.Serialize
import DelbModel.Lemmas.AssocList
/-!
# The dictionaries of the serializer (`Dict`) and `lookupPrefix`

`dget`, `dset` are lookup and assignment of the association lists of `Lemmas/AssocList.lean` at strings; the literals
`xml`, `xmlns`, `:` and the strings made of them.
-/
namespace Delb.Ser

theorem dget_eq_get : dget = Assoc.get := by
  funext d k
  induction d with
  | nil => rfl
  | cons e r ih => simp only [dget, Assoc.get, ih]

theorem dset_eq_set : dset = Assoc.set := by
  funext d k v
  induction d with
  | nil => rfl
  | cons e r ih => simp only [dset, Assoc.set, ih]

theorem dget_cons (k' v : String) (rest : Dict) (k : String) :
    dget ((k', v) :: rest) k = if k' = k then some v else dget rest k := by
  simp [dget]

theorem mem_of_dget {d : Dict} {k v : String} (h : dget d k = some v) : (k, v) ∈ d :=
  Assoc.mem_of_get (dget_eq_get ▸ h)

theorem dget_isSome_iff {d : Dict} {k : String} : (dget d k).isSome ↔ k ∈ dkeys d := by
  induction d with
  | nil => exact ⟨fun h => (nomatch h), fun h => (nomatch h)⟩
  | cons e rest ih =>
    obtain ⟨k', v'⟩ := e
    rw [dget_cons, dkeys, List.map_cons, List.mem_cons, ← dkeys, ← ih]
    split
    · rename_i h; exact ⟨fun _ => Or.inl h.symm, fun _ => rfl⟩
    · rename_i h; exact ⟨Or.inr, fun h' => h'.resolve_left fun e => h e.symm⟩

theorem dget_eq_none_iff {d : Dict} {k : String} : dget d k = none ↔ k ∉ dkeys d := by
  rw [← dget_isSome_iff, ← Option.not_isSome_iff_eq_none]

theorem mem_dkeys_of_mem {d : Dict} {k v : String} (h : (k, v) ∈ d) : k ∈ dkeys d :=
  List.mem_map.mpr ⟨(k, v), h, rfl⟩

theorem mem_dvalues_of_mem {d : Dict} {k v : String} (h : (k, v) ∈ d) : v ∈ dvalues d :=
  List.mem_map.mpr ⟨(k, v), h, rfl⟩

theorem dget_of_mem {d : Dict} {k v : String} (hn : (dkeys d).Nodup) (h : (k, v) ∈ d) :
    dget d k = some v :=
  dget_eq_get ▸ Assoc.get_of_mem hn h

theorem mem_dvalues_iff {d : Dict} (hn : (dkeys d).Nodup) {v : String} :
    v ∈ dvalues d ↔ ∃ k, dget d k = some v := by
  constructor
  · intro h
    obtain ⟨⟨k, v'⟩, hm, rfl⟩ := List.mem_map.mp h
    exact ⟨k, dget_of_mem hn hm⟩
  · rintro ⟨k, h⟩
    exact mem_dvalues_of_mem (mem_of_dget h)

theorem dget_ne_of_not_mem_dvalues {m : Dict} {v : String} (h : v ∉ dvalues m) (k : String) : dget m k ≠ some v :=
  fun hk => h (mem_dvalues_of_mem (mem_of_dget hk))

theorem find_value_some {d : Dict} {v k x : String} (h : d.find? (fun e => e.2 == v) = some (k, x)) :
    (k, v) ∈ d := by
  obtain rfl : x = v := eq_of_beq (List.find?_some h :)
  exact List.mem_of_find?_eq_some h

theorem find_value_none {d : Dict} {v : String} (h : d.find? (fun e => e.2 == v) = none) (k : String) :
    (k, v) ∉ d :=
  fun hm => List.find?_eq_none.mp h _ hm (beq_self_eq_true v)

theorem dget_dset (d : Dict) (k v k' : String) :
    dget (dset d k v) k' = if k = k' then some v else dget d k' := by
  rw [dget_eq_get, dset_eq_set, Assoc.get_set]
  by_cases h : k = k'
  · rw [if_pos h, if_pos h.symm]
  · rw [if_neg h, if_neg (Ne.symm h)]

theorem mem_dkeys_dset (d : Dict) (k v k' : String) :
    k' ∈ dkeys (dset d k v) ↔ k' = k ∨ k' ∈ dkeys d := by
  rw [← dget_isSome_iff, ← dget_isSome_iff, dget_dset]
  by_cases h : k = k'
  · simp [h]
  · have : ¬ k' = k := fun e => h e.symm
    simp [h, this]

theorem mem_dset {d : Dict} {k v : String} {e : String × String} (h : e ∈ dset d k v) :
    e ∈ d ∨ e = (k, v) := by
  induction d with
  | nil => simp only [dset, List.mem_singleton] at h; exact Or.inr h
  | cons x d ih =>
    obtain ⟨k', v'⟩ := x
    simp only [dset] at h
    split at h
    · rcases List.mem_cons.mp h with h | h
      · exact Or.inr h
      · exact Or.inl (List.mem_cons_of_mem _ h)
    · rcases List.mem_cons.mp h with h | h
      · exact Or.inl (by rw [h]; simp)
      · rcases ih h with h | h
        · exact Or.inl (List.mem_cons_of_mem _ h)
        · exact Or.inr h

theorem nodup_dkeys_dset {d : Dict} (hn : (dkeys d).Nodup) (k v : String) :
    (dkeys (dset d k v)).Nodup :=
  dset_eq_set ▸ Assoc.keys_set_nodup k v hn

theorem forall_dget_dset {d : Dict} {k v : String} {P : String → String → Prop}
    (h : ∀ a w, dget d a = some w → P a w) (hnew : P k v) :
    ∀ a w, dget (dset d k v) a = some w → P a w := by
  intro a w ha
  rw [dget_dset] at ha
  split at ha
  · rename_i he
    cases ha
    exact he ▸ hnew
  · exact h a w ha

theorem dget_dset_inj {d : Dict} {k v : String} (hfresh : ∀ k', dget d k' ≠ some v)
    (hinj : ∀ a b p, dget d a = some p → dget d b = some p → a = b) :
    ∀ a b p, dget (dset d k v) a = some p → dget (dset d k v) b = some p → a = b := by
  intro a b p ha hb
  rw [dget_dset] at ha hb
  by_cases h1 : k = a <;> by_cases h2 : k = b
  · rw [← h1, ← h2]
  · rw [if_pos h1] at ha; rw [if_neg h2] at hb
    cases ha; exact absurd hb (hfresh b)
  · rw [if_neg h1] at ha; rw [if_pos h2] at hb
    cases hb; exact absurd ha (hfresh a)
  · rw [if_neg h1] at ha; rw [if_neg h2] at hb
    exact hinj a b p ha hb

theorem dset_of_dget_none {d : Dict} {k : String} (v : String) (h : dget d k = none) :
    dset d k v = d ++ [(k, v)] := by
  induction d with
  | nil => rfl
  | cons e rest ih =>
    obtain ⟨k', v'⟩ := e
    rw [dget_cons] at h
    split at h
    · cases h
    · rename_i hne
      simp [dset, hne, ih h]

theorem dget_append (a b : Dict) (k : String) : dget (a ++ b) k = (dget a k).or (dget b k) := by
  induction a with
  | nil => simp [dget]
  | cons e rest ih =>
    obtain ⟨k', v⟩ := e
    rw [List.cons_append, dget_cons, dget_cons, ih]
    split <;> simp

theorem dget_foldl_dset {α : Type} (f g : α → String) (k : String) (l : List α) (r : Dict) :
    dget (l.foldl (fun r e => dset r (f e) (g e)) r) k =
      ((l.reverse.find? (fun e => f e == k)).map g).or (dget r k) := by
  induction l generalizing r with
  | nil => rfl
  | cons e l ih =>
    rw [List.foldl_cons, ih, dget_dset, List.reverse_cons, List.find?_append]
    cases l.reverse.find? (fun e => f e == k) with
    | some e' => rfl
    | none => by_cases h : f e = k <;> simp [h]

theorem nodup_dkeys_foldl_dset {α : Type} (f g : α → String) (l : List α) {r : Dict}
    (hn : (dkeys r).Nodup) : (dkeys (l.foldl (fun r e => dset r (f e) (g e)) r)).Nodup :=
  List.foldlRecOn (motive := fun r => (dkeys r).Nodup) l _ hn (fun _ hr _ _ => nodup_dkeys_dset hr _ _)

/-- `lookup_prefix` finds the last entry with the value (later entries win in the inverse dictionary) -/
theorem lookupPrefix_eq_find (d : Dict) (ns : String) :
    lookupPrefix d ns = (d.reverse.find? (fun pn => pn.2 == ns)).map (·.1) := by
  have : ∀ acc, d.foldl (fun acc (pn : String × String) => if pn.2 == ns then some pn.1 else acc) acc =
      ((d.reverse.find? (fun pn => pn.2 == ns)).map (·.1)).or acc := by
    induction d with
    | nil => intro acc; rfl
    | cons e rest ih =>
      intro acc
      rw [List.foldl_cons, ih, List.reverse_cons, List.find?_append]
      cases rest.reverse.find? (fun pn => pn.2 == ns) with
      | some e => rfl
      | none => by_cases h : e.2 == ns <;> simp [h]
  rw [lookupPrefix, this, Option.or_none]

theorem lookupPrefix_mem {d : Dict} {ns p : String} (h : lookupPrefix d ns = some p) :
    (p, ns) ∈ d := by
  rw [lookupPrefix_eq_find, Option.map_eq_some_iff] at h
  obtain ⟨⟨p', ns'⟩, hf, rfl⟩ := h
  obtain rfl : ns' = ns := eq_of_beq (List.find?_some hf :)
  exact List.mem_reverse.mp (List.mem_of_find?_eq_some hf)

theorem lookupPrefix_eq_none_iff {d : Dict} {ns : String} : lookupPrefix d ns = none ↔ ns ∉ dvalues d := by
  rw [lookupPrefix_eq_find, Option.map_eq_none_iff, List.find?_eq_none]
  constructor
  · intro h hm
    obtain ⟨e, he, rfl⟩ := List.mem_map.mp hm
    exact h e (List.mem_reverse.mpr he) (beq_self_eq_true _)
  · intro h e he hb
    exact h (List.mem_map.mpr ⟨e, List.mem_reverse.mp he, eq_of_beq hb⟩)

theorem lookupPrefix_none {d : Dict} {ns : String} (h : lookupPrefix d ns = none) :
    ns ∉ dvalues d :=
  lookupPrefix_eq_none_iff.mp h

theorem lookupPrefix_dget {d : Dict} (hn : (dkeys d).Nodup) {ns p : String}
    (h : lookupPrefix d ns = some p) : dget d p = some ns :=
  dget_of_mem hn (lookupPrefix_mem h)

theorem lookupPrefix_of_unique {d : Dict} {ns p : String} (hm : (p, ns) ∈ d)
    (hu : ∀ p', (p', ns) ∈ d → p' = p) : lookupPrefix d ns = some p := by
  cases hl : lookupPrefix d ns with
  | none => exact absurd (mem_dvalues_of_mem hm) (lookupPrefix_none hl)
  | some p' => rw [hu p' (lookupPrefix_mem hl)]

theorem xml_mem_globalPrefixes : "xml" ∈ Gen.globalPrefixes := List.mem_cons_self
theorem xmlns_mem_globalPrefixes : "xmlns" ∈ Gen.globalPrefixes := List.mem_cons_of_mem _ List.mem_cons_self
theorem no_colon_lit : ':' ∉ "xml".toList ∧ ':' ∉ "xmlns".toList ∧ ':' ∉ "".toList := by decide +kernel
theorem xml_ne_xmlns : "xml" ≠ "xmlns" := by decide +kernel
theorem xmlns_lit : "xmlns".toList = ['x','m','l','n','s'] := toList_of_eq_ofList rfl
theorem colon_lit : ":".toList = [':'] := toList_of_eq_ofList rfl
theorem empty_toList : "".toList = [] := by decide
theorem ofList_nil : String.ofList [] = "" := by decide
theorem xml_colon_lit : "xml:" = "xml" ++ ":" ∧ "xmlns:" = "xmlns" ++ ":" := by decide +kernel
theorem xmlns_decl_lit : "xmlns:xml" = "xmlns:" ++ "xml" ∧ "xmlns:xmlns" = "xmlns:" ++ "xmlns" := by
  decide +kernel

theorem str_append_ne_empty (q : String) : q ++ ":" ≠ "" := by
  intro h
  have := congrArg String.toList h
  simp [String.toList_append] at this

theorem str_append_colon_inj {a b : String} (h : a ++ ":" = b ++ ":") : a = b :=
  (String.append_left_inj ":").mp h

end Delb.Ser
