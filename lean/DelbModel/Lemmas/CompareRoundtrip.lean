import DelbModel.Model.Compare
import DelbModel.Lemmas.Serializable
/-!
# For the C17 corollaries: trees the serializer can write have unique attribute keys
-/
namespace Delb.Compare
open Delb.Ser

mutual
  theorem wellFormed_of_serializable : (t : Node) → Serializable t → wellFormed t
    | .tag _ _ _ kids, h => ⟨h.tag.2.2.2.1, wellFormedList_of_serializable kids h.tag.2.2.2.2⟩
    | .text _, _ => trivial
    | .comment _, _ => trivial
    | .pi _ _, _ => trivial
  theorem wellFormedList_of_serializable : (ks : List Node) → SerializableList ks → wellFormedList ks
    | [], _ => trivial
    | k :: ks, h => ⟨wellFormed_of_serializable k h.cons.1, wellFormedList_of_serializable ks h.cons.2⟩
end

end Delb.Compare
