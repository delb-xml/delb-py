import DelbModel.Model.Edit
import DelbModel.Lemmas.Edit.Basic
import DelbModel.Lemmas.Edit.Locate
import DelbModel.Lemmas.Edit.Child
import DelbModel.Lemmas.Edit.MergeClone
import DelbModel.Lemmas.Edit.Path
import DelbModel.Lemmas.Edit.PlainPath
import DelbModel.Lemmas.Edit.SpecStep
import DelbModel.Lemmas.Edit.Step
import DelbModel.Lemmas.Edit.Texts
/-!
# The slot/chain encoding against plain trees (C01)

The refinement proof, in reading order:
* `Edit/Basic.lean` — `abs` on constructors and on a split child list; `ExRel`, in which every simulation is phrased
* `Edit/Locate.lean` — `LocAt`: which location of the encoding holds visible child `i`; also the sibling facts of C05
* `Edit/Child.lean` — the edits on the child list of one node are list splices
* `Edit/Path.lean` — an edit below a path commutes with `abs` when the edit at its end does
* `Edit/MergeClone.lean` — `merge_text_nodes` and deep clones commute with `abs`
* `Edit/Step.lean` — every step of the mechanism is the step of the specification on the abstracted state

About plain trees alone:
* `Edit/PlainPath.lean` — `splitLast`, `getAtP`, `NodeAt` (used by navigation, XPath and `location_path` too)
* `Edit/SpecStep.lean` — what a successful step of the specification did (used by C10 too)
* `Edit/Texts.lean` — moving nodes permutes the text nodes of the forest
-/
