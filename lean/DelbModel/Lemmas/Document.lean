import DelbModel.Model.Document
import DelbModel.Lemmas.General
/-! `docPieces` is the declaration followed by the constructs, each behind the separator; what filtering,
    interspersing and `readDoc` make of a list of that shape -/
namespace Delb.Doc
open Delb.Ser

theorem flatMap_shift (nl r : List DPiece) (l : List Node) :
    nl ++ (l.flatMap (fun n => DPiece.misc n :: nl) ++ r)
      = l.flatMap (fun n => nl ++ [DPiece.misc n]) ++ (nl ++ r) := by
  induction l with
  | nil => rfl
  | cons x xs ih => simp [ih]

/-- `docPieces` without the case distinction on the last epilogue member -/
theorem docPieces_eq (f : Bool) (enc : String) (d : Document) (rs : Str) :
    docPieces f enc d rs = .decl (upper enc) ::
      (d.prologue.map DPiece.misc ++ DPiece.root rs :: d.epilogue.map DPiece.misc).flatMap
        (fun x => (if f then [DPiece.newline] else []) ++ [x]) := by
  obtain ⟨pro, root, epi⟩ := d
  simp only [docPieces, List.flatMap_append, List.flatMap_cons, List.flatMap_map]
  generalize (if f = true then [DPiece.newline] else []) = nl
  rcases List.eq_nil_or_concat epi with rfl | ⟨init, last, rfl⟩ <;> simp [flatMap_shift]

theorem sep_newline (f : Bool) : ∀ x ∈ (if f then [DPiece.newline] else []), x = .newline := by
  cases f <;> simp

theorem forall_mem_constructs {P : DPiece → Prop} {pro epi : List Node} {s : Str} (hm : ∀ n, P (.misc n))
    (hr : P (.root s)) : ∀ x ∈ pro.map DPiece.misc ++ .root s :: epi.map DPiece.misc, P x := by
  simp only [List.forall_mem_append, List.forall_mem_cons, List.forall_mem_map]
  exact ⟨fun n _ => hm n, hr, fun n _ => hm n⟩

theorem takeWhile_misc (p : DPiece → Bool) (hm : ∀ n, p (.misc n) = true) (hr : ∀ s, p (.root s) = false)
    (pro : List Node) (s : Str) (after : List DPiece) :
    (pro.map DPiece.misc ++ .root s :: after).takeWhile p = pro.map DPiece.misc := by
  induction pro with
  | nil => simp [hr]
  | cons x xs ih => simp [hm, ih]

theorem filterMap_misc (g : DPiece → Option Node) (hg : ∀ n, g (.misc n) = some n) (l : List Node) :
    (l.map DPiece.misc).filterMap g = l := by
  induction l with
  | nil => rfl
  | cons x xs ih => simp [hg, ih]

theorem readDoc_sep (enc : String) (nl : List DPiece) (hn : ∀ x ∈ nl, x = DPiece.newline)
    (pro epi : List Node) (s : Str) :
    readDoc (.decl enc :: (pro.map DPiece.misc ++ .root s :: epi.map DPiece.misc).flatMap (fun x => nl ++ [x]))
      = some (enc, pro, s, epi) := by
  rw [readDoc, filter_sep _ _ _ (fun x hx => by rw [hn x hx]) (forall_mem_constructs (fun _ => rfl) rfl),
    takeWhile_misc _ (fun _ => rfl) (fun _ => rfl), List.drop_left]
  simp only [List.all_map, List.all_eq_true, Function.comp_apply, implies_true, if_true]
  rw [filterMap_misc _ fun _ => rfl, filterMap_misc _ fun _ => rfl]

theorem lower_upper_nat : ∀ n < 123, 97 ≤ n →
    ¬ ('A' ≤ Char.ofNat n ∧ Char.ofNat n ≤ 'Z') ∧
    ('A' ≤ Char.ofNat (n - 32) ∧ Char.ofNat (n - 32) ≤ 'Z') ∧
    Char.ofNat ((Char.ofNat (n - 32)).toNat + 32) = Char.ofNat n := by
  decide +kernel

theorem lower_upper (c : Char) :
    (if 'A' ≤ upperAscii c ∧ upperAscii c ≤ 'Z' then Char.ofNat ((upperAscii c).toNat + 32) else upperAscii c)
      = (if 'A' ≤ c ∧ c ≤ 'Z' then Char.ofNat (c.toNat + 32) else c) := by
  unfold upperAscii
  by_cases h : 'a' ≤ c ∧ c ≤ 'z'
  · have h1 : 97 ≤ c.toNat := UInt32.le_iff_toNat_le.1 (Char.le_def.1 h.1)
    have h2 : c.toNat ≤ 122 := UInt32.le_iff_toNat_le.1 (Char.le_def.1 h.2)
    have hk := lower_upper_nat c.toNat (Nat.lt_succ_of_le h2) h1
    rw [Char.ofNat_toNat] at hk
    rw [if_pos h, if_pos hk.2.1, if_neg hk.1, hk.2.2]
  · rw [if_neg h]

mutual
  theorem dropKinds_nothing : ∀ t : Node, dropKinds false false t = t
    | .tag _ _ _ ks => by rw [dropKinds, dropKindsList_nothing ks]
    | .text _ => rfl
    | .comment _ => rfl
    | .pi _ _ => rfl
  theorem dropKindsList_nothing : ∀ ks : List Node, dropKindsList false false ks = ks
    | [] => rfl
    | .tag ns name a ks' :: ks => by
      simp only [dropKindsList, dropKinds_nothing (.tag ns name a ks'), dropKindsList_nothing ks]
    | .text _ :: ks => by simp only [dropKindsList, dropKinds, dropKindsList_nothing ks]
    | .comment _ :: ks => by rw [dropKindsList, if_neg nofun, dropKindsList_nothing ks]
    | .pi _ _ :: ks => by rw [dropKindsList, if_neg nofun, dropKindsList_nothing ks]
end

end Delb.Doc
