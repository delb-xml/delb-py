import DelbModel.Model.Scan
import DelbModel.Lemmas.Prefixes
/-!
# The collected prefix map consists of writable names (`MapNamesOk`)

`_collect_prefixes` only ever stores namespaces of the tree as keys and, as values, the empty
prefix, `q:` for a prefix `q` of the caller's mapping, or a generated `ns{i}:`.
-/
namespace Delb.Ser

mutual
theorem namesOk_ns : ∀ (t : Node), NamesOk t → ∀ ns ∈ treeNamespaces t, valueOk ns.toList = true
  | .tag tns name attrs kids, h, ns, hns => by
    simp only [NamesOk] at h
    simp only [treeNamespaces, List.mem_cons, List.mem_append, List.mem_map] at hns
    rcases hns with (hns | ⟨a, ha, rfl⟩) | hns
    · rw [hns]; exact h.2.1
    · exact (h.2.2.1 a ha).2.1
    · exact namesOkList_ns kids h.2.2.2 ns hns
  | .text _, _, ns, hns => by simp [treeNamespaces] at hns
  | .comment _, _, ns, hns => by simp [treeNamespaces] at hns
  | .pi _ _, _, ns, hns => by simp [treeNamespaces] at hns
theorem namesOkList_ns : ∀ (ks : List Node), NamesOkList ks → ∀ ns ∈ kidsNamespaces ks,
    valueOk ns.toList = true
  | [], _, ns, hns => by simp [kidsNamespaces] at hns
  | k :: ks, h, ns, hns => by
    simp only [NamesOkList] at h
    simp only [kidsNamespaces, List.mem_append] at hns
    rcases hns with hns | hns
    · exact namesOk_ns k h.1 ns hns
    · exact namesOkList_ns ks h.2 ns hns
end

theorem rootNs_ok (root : Node) (h : NamesOk root) : valueOk (rootNs root).toList = true := by
  cases root with
  | tag ns name attrs kids => simp only [NamesOk] at h; exact h.2.1
  | _ => simp [rootNs, valueOk]

theorem digit_nameChar {c : Char} (h : c.isDigit = true) : nameChar c = true := by
  have hb : ∀ n < 58, 48 ≤ n → nameChar (Char.ofNat n) = true := by decide +kernel
  simp only [Char.isDigit, Bool.and_eq_true, decide_eq_true_eq] at h
  obtain ⟨h1, h2⟩ := h
  rw [ge_iff_le, UInt32.le_iff_toNat_le] at h1
  rw [UInt32.le_iff_toNat_le] at h2
  have e1 : '0'.val.toNat = 48 := rfl
  have e2 : '9'.val.toNat = 57 := rfl
  rw [e1] at h1
  rw [e2] at h2
  have := hb c.toNat (by show c.val.toNat < 58; omega) h1
  rwa [Char.ofNat_toNat] at this

theorem colon_nameChars : ∀ c ∈ ":".toList, nameChar c = true := by decide
theorem empty_nameChars : ∀ c ∈ "".toList, nameChar c = true := by decide

theorem genPrefix_nameChars (j : Nat) : ∀ c ∈ (genPrefix j ++ ":").toList, nameChar c = true := by
  intro c hc
  rw [genPrefix, String.toList_append, String.toList_append] at hc
  rcases List.mem_append.mp hc with hc | hc
  · rcases List.mem_append.mp hc with hc | hc
    · have : ∀ y ∈ "ns".toList, nameChar y = true := by decide
      exact this c hc
    · rw [natToStr_toList] at hc
      exact digit_nameChar (Nat.isDigit_of_mem_toDigits (by decide) (by decide) hc)
  · exact colon_nameChars c hc

theorem MapNamesOk.dset {m : Dict} (h : MapNamesOk m) {k v : String} (hk : valueOk k.toList = true)
    (hv : ∀ c ∈ v.toList, nameChar c = true) : MapNamesOk (dset m k v) := by
  intro e he
  rcases mem_dset he with he | he
  · exact h e he
  · rw [he]; exact ⟨hk, hv⟩

theorem MapNamesOk.newDecl {nsmap m m' : Dict} (h : MapNamesOk m) {ns : String}
    (hk : valueOk ns.toList = true) (hd : newDecl nsmap m ns = .ok m') : MapNamesOk m' := by
  obtain ⟨j, rfl, _, _⟩ := newDecl_ok hd
  exact h.dset hk (genPrefix_nameChars j)

theorem collectOne_mapNamesOk {nsmap m m' : Dict} (hnn : NsMapNamesOk nsmap) (h : MapNamesOk m)
    {ns : String} (hk : valueOk ns.toList = true) (hd : collectOne nsmap m ns = .ok m') :
    MapNamesOk m' := by
  revert hd
  refine collectOne_cases (C := fun r => r = .ok m' → _) ?_ ?_ ?_ ?_ ?_ ?_ ?_ ?_
  · intro _ hd; cases hd; exact h
  · intro _ _ _ _ _ _ _ hd; cases hd
  · intro other x m₁ _ _ hfind hm₁ hd
    cases hd
    exact (h.newDecl (h _ (List.mem_of_find?_eq_some hfind)).1 hm₁).dset (by decide) empty_nameChars
  · intro _ _ _ hd; cases hd; exact h.dset (by decide) empty_nameChars
  · intro _ _ _ hd; exact h.newDecl hk hd
  · intro _ _ _ _ _ _ hd; cases hd
  · intro p _ _ hl _ _ hd
    cases hd
    refine h.dset hk ?_
    intro c hc
    rw [String.toList_append] at hc
    rcases List.mem_append.mp hc with hc | hc
    · exact hnn _ (lookupPrefix_mem hl) c hc
    · exact colon_nameChars c hc
  · intro _ _ _ _ hd; cases hd; exact h.dset hk empty_nameChars

theorem collect_mapNamesOk {nsmap : Dict} (hnn : NsMapNamesOk nsmap) (root : Node)
    (hroot : NamesOk root) (orders : List (List String)) (ho : ordersValid root orders = true)
    (m : Dict) (h : collect nsmap root orders = .ok m) : MapNamesOk m := by
  rw [collect_eq] at h
  refine collectMany_induction (P := MapNamesOk) ?_ ?_ h
  · intro ns hns m₁ m₂ h₁ hd
    exact collectOne_mapNamesOk hnn h₁ (namesOk_ns root hroot ns ((mem_orders_iff ho).mp hns)) hd
  · split
    · intro e he; cases he
    · intro e he
      rw [List.mem_singleton] at he
      rw [he]
      exact ⟨rootNs_ok root hroot, empty_nameChars⟩

end Delb.Ser
