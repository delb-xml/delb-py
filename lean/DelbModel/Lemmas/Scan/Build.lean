import DelbModel.Lemmas.Scan
import DelbModel.Lemmas.Roundtrip
/-!
# The tree builder and `mergeChars`

`build` does not see how character data is cut into `chars` tokens: whenever it accepts a token
list, it accepts the merged list with the same result (the converse fails only for an empty
`chars` token outside the root element, which `mergeChars` drops and `build` rejects).
-/
namespace Delb.Ser

theorem finish_eq (n : Node) (st : List Frame) (d : Option Node) :
    ∃ st' d', ∀ ts, finish n ts st d = buildAux ts st' d' := by
  cases st with
  | nil => exact ⟨[], some n, fun _ => rfl⟩
  | cons f fs => exact ⟨_, d, fun _ => rfl⟩

theorem buildAux_step (t : Tok) (ht : ∀ s, t = .chars s → False) (st : List Frame) (d : Option Node) :
    (∀ ts, buildAux (t :: ts) st d = none) ∨
    ∃ st' d', ∀ ts, buildAux (t :: ts) st d = buildAux ts st' d' := by
  cases t with
  | chars s => exact absurd rfl (ht s)
  | comment s =>
    cases st with
    | nil => exact Or.inl fun _ => rfl
    | cons f fs => right; exact ⟨_, _, fun ts => buildAux_comment s ts f fs d⟩
  | pi t s =>
    cases st with
    | nil => exact Or.inl fun _ => rfl
    | cons f fs => right; exact ⟨_, _, fun ts => buildAux_pi t s ts f fs d⟩
  | etag qn =>
    cases st with
    | nil => exact Or.inl fun _ => rfl
    | cons f fs =>
      by_cases hq : (f.qname != qn) = true
      · left; intro ts; rw [buildAux_etag_eq, if_pos hq]
      · obtain ⟨st', d', h⟩ := finish_eq (.tag f.ns f.name f.attrs f.kids.reverse) fs d
        right; exact ⟨st', d', fun ts => by rw [buildAux_etag_eq, if_neg hq, h]⟩
  | stag qn attrs sc =>
    by_cases hd : d.isSome = true
    · left; intro ts; rw [buildAux_stag_eq, if_pos hd]
    · cases hr : resolve (scopeOf attrs (topScope st)) (String.ofList ((splitQName qn).1.getD [])) with
      | none => left; intro ts; rw [buildAux_stag_eq, if_neg hd, hr]
      | some ns =>
        cases ha : readAttrs (scopeOf attrs (topScope st)) attrs with
        | none => left; intro ts; rw [buildAux_stag_eq, if_neg hd, hr, ha]
        | some as =>
          right
          cases sc with
          | false => exact ⟨_, _, fun ts => by rw [buildAux_stag_eq, if_neg hd, hr, ha]; rfl⟩
          | true =>
            obtain ⟨st', d', h⟩ := finish_eq (.tag ns (String.ofList (splitQName qn).2) as []) st d
            exact ⟨st', d', fun ts => by rw [buildAux_stag_eq, if_neg hd, hr, ha]; exact h ts⟩

theorem pushText_pushText (a b : Str) (ks : List Node) :
    pushText b (pushText a ks) = pushText (a ++ b) ks := by
  by_cases ha : a = []
  · subst ha; rw [pushText_nil]; rfl
  · have hae : a.isEmpty = false := by cases a <;> simp_all
    have habe : (a ++ b).isEmpty = false := by cases a <;> simp_all
    rcases ks with _ | ⟨k, ks⟩
    · simp [pushText, hae, habe]
    · cases k <;> simp [pushText, hae, habe]

theorem buildAux_mergeChars (ts : List Tok) : ∀ (st : List Frame) (d : Option Node) (n : Node),
    buildAux ts st d = some n → buildAux (mergeChars ts) st d = some n := by
  fun_induction mergeChars ts with
  | case1 => exact fun _ _ _ h => h
  | case2 s rest t rest' heq ih =>
    intro st d n h
    cases st with
    | nil => cases h
    | cons f fs =>
      have := ih _ _ _ h
      rwa [heq, buildAux_chars, pushText_pushText] at this
  | case3 rest _ ih =>
    intro st d n h
    cases st with
    | nil => cases h
    | cons f fs =>
      rw [buildAux_chars, pushText_nil] at h
      exact ih _ _ _ h
  | case4 s rest _ _ ih =>
    intro st d n h
    cases st with
    | nil => cases h
    | cons f fs => exact ih _ _ _ h
  | case5 t rest hne ih =>
    intro st d n h
    rcases buildAux_step t hne st d with hn | ⟨st', d', hs⟩
    · rw [hn] at h
      cases h
    · rw [hs] at h ⊢
      exact ih _ _ _ h

theorem build_mergeChars (ts : List Tok) (n : Node) (h : build ts = some n) :
    build (mergeChars ts) = some n :=
  buildAux_mergeChars ts [] none n h

end Delb.Ser
