import DelbModel.Model.Clone
import DelbModel.Lemmas.Edit
/-!
# Clones and what a step leaves alone (C10)

`cloneP` keeps the tree up to identities (`strip`) and numbers the clone's nodes `n, n + 1, …` (`idsOf`); a successful
step of the specification changes no group outside `touched p` (`Frame`); the stack loops of `_copy_root_siblings` and
`Document.clone` as equations between lists.
-/
namespace Delb.Clone
open Delb.Edit

@[simp] theorem strip_tag (i ns n a ks) : strip (.tag i ns n a ks) = .tag ns n a (stripList ks) := by
  simp [strip]
@[simp] theorem strip_text (i s) : strip (.text i s) = .text s := by simp [strip]
@[simp] theorem strip_comment (i s) : strip (.comment i s) = .comment s := by simp [strip]
@[simp] theorem strip_pi (i t s) : strip (.pi i t s) = .pi t s := by simp [strip]
@[simp] theorem stripList_nil : stripList [] = [] := by simp [stripList]
@[simp] theorem stripList_cons (k ks) : stripList (k :: ks) = strip k :: stripList ks := by
  simp [stripList]

@[simp] theorem idsOf_tag (i ns n a ks) : idsOf (.tag i ns n a ks) = i :: idsOfList ks := by
  simp [idsOf]
@[simp] theorem idsOf_text (i s) : idsOf (.text i s) = [i] := by simp [idsOf]
@[simp] theorem idsOf_comment (i s) : idsOf (.comment i s) = [i] := by simp [idsOf]
@[simp] theorem idsOf_pi (i t s) : idsOf (.pi i t s) = [i] := by simp [idsOf]
@[simp] theorem idsOfList_nil : idsOfList [] = [] := by simp [idsOfList]
@[simp] theorem idsOfList_cons (k ks) : idsOfList (k :: ks) = idsOf k ++ idsOfList ks := by
  simp [idsOfList]

mutual
  theorem strip_cloneP : ∀ (t : PTree) (n : Nat), strip (cloneP n t).1 = strip t
    | .tag _ _ _ _ ks, n => by simp [stripList_cloneListP ks (n + 1)]
    | .text .., n | .comment .., n | .pi .., n => by simp
  theorem stripList_cloneListP : ∀ (ks : List PTree) (n : Nat), stripList (cloneListP n ks).1 = stripList ks
    | [], n => by simp
    | k :: ks, n => by simp [strip_cloneP k n, stripList_cloneListP ks (cloneP n k).2]
end

mutual
  theorem ids_cloneP : ∀ (t : PTree) (n : Nat),
      idsOf (cloneP n t).1 = List.range' n (idsOf t).length ∧ (cloneP n t).2 = n + (idsOf t).length
    | .tag _ _ _ _ ks, n => by
      have h := ids_cloneListP ks (n + 1)
      refine ⟨?_, ?_⟩
      · simp [h.1, List.range'_succ]
      · simp [h.2]; omega
    | .text .., n | .comment .., n | .pi .., n => by simp [List.range'_succ]
  theorem ids_cloneListP : ∀ (ks : List PTree) (n : Nat),
      idsOfList (cloneListP n ks).1 = List.range' n (idsOfList ks).length ∧
        (cloneListP n ks).2 = n + (idsOfList ks).length
    | [], n => by simp
    | k :: ks, n => by
      have h1 := ids_cloneP k n
      have h2 := ids_cloneListP ks (cloneP n k).2
      rw [h1.2] at h2
      refine ⟨?_, ?_⟩
      · simp only [cloneListP_cons, idsOfList_cons, h1.1, h1.2, h2.1, List.length_append]
        rw [← List.range'_append_1]
      · simp only [cloneListP_cons, idsOfList_cons, h1.2, h2.2, List.length_append]; omega
end

/-- `s'` keeps all the groups of `s` and differs from it at most in the groups `T` -/
def Frame (T : List Nat) (s s' : StateA) : Prop :=
  s.groups.length ≤ s'.groups.length ∧ ∀ g, g ∉ T → g < s.groups.length → s'.groups[g]? = s.groups[g]?

theorem Frame.same {s s' : StateA} {T : List Nat} (h : s'.groups = s.groups) : Frame T s s' :=
  ⟨Nat.le_of_eq (by rw [h]), fun _ _ _ => by rw [h]⟩

theorem Frame.set {s s' : StateA} {g : Nat} {x : Option PTree} (h : s'.groups = s.groups.set g x) : Frame [g] s s' := by
  refine ⟨by simp [h], fun g' hg _ => ?_⟩
  rw [h, List.getElem?_set_ne (Ne.symm (by simpa using hg))]

theorem Frame.append {s s' : StateA} {T : List Nat} {l : List (Option PTree)} (h : s'.groups = s.groups ++ l) :
    Frame T s s' :=
  ⟨by simp [h], fun g _ hlt => by rw [h, List.getElem?_append_left hlt]⟩

theorem Frame.trans {s s1 s2 : StateA} {T1 T2 T : List Nat} (h1 : Frame T1 s s1) (h2 : Frame T2 s1 s2)
    (hT : ∀ g, g ∉ T → g ∉ T1 ∧ g ∉ T2) : Frame T s s2 :=
  ⟨Nat.le_trans h1.1 h2.1, fun g hg hlt => by
    rw [h2.2 g (hT g hg).2 (Nat.lt_of_lt_of_le hlt h1.1), h1.2 g (hT g hg).1 hlt]⟩

theorem takeSourceA_frame {s s' : StateA} {tgt : Nat} {src : Source} {new : PTree}
    (h : takeSourceA s tgt src = .ok (s', new)) : Frame (sourceGroups src) s s' := by
  obtain ⟨_, rfl, rfl⟩ | ⟨g0, rfl, _, rfl⟩ := takeSourceA_inv h
  · exact .same rfl
  · exact .set rfl

theorem modifyGroupA_frame {s s' : StateA} {g0 : Nat} {f : PTree → Except EditErr PTree}
    (h : modifyGroupA s g0 f = .ok s') : Frame [g0] s s' := by
  obtain ⟨t, t', _, _, rfl⟩ := modifyGroupA_inv h
  exact .set rfl

theorem stepA_frame (s s' : StateA) (p : Prim) (h : stepA s p = .ok s') : Frame (touched p) s s' := by
  have add : ∀ {a : Addr} {src : Source} {G : PTree → PTree → Except EditErr PTree},
      (match takeSourceA s a.g src with
        | .error e => Except.error e
        | .ok (s1, new) => modifyGroupA s1 a.g (G new)) = Except.ok s' → Frame (a.g :: sourceGroups src) s s' := by
    intro a src G h
    obtain ⟨s1, new, hts, hm⟩ := take_modify_inv h
    exact (takeSourceA_frame hts).trans (modifyGroupA_frame hm) (fun g hg => by simpa [and_comm] using hg)
  cases p with
  | addFollowing a src =>
    simp only [stepA] at h
    split at h
    · cases h
    · exact add h
  | addPreceding a src =>
    simp only [stepA] at h
    split at h
    · cases h
    · exact add h
  | addFirst a src => exact add h
  | detach a =>
    obtain rfl | ⟨_, _, _, _, t', _, _, _, rfl⟩ := stepA_detach_inv h
    · exact .same rfl
    · exact (Frame.set (s' := { s with groups := s.groups.set a.g (some t') }) rfl).trans (.append (T := []) rfl)
        (fun g hg => ⟨hg, List.not_mem_nil⟩)
  | setContent a str =>
    simp only [stepA] at h
    split at h
    · split at h
      · cases h; exact .set rfl
      · cases h
    · exact modifyGroupA_frame h
  | merge a => simp only [stepA] at h; exact modifyGroupA_frame h
  | newTag ns name attrs => cases h; exact .append rfl
  | newComment str => cases h; exact .append rfl
  | newPI t str => cases h; exact .append rfl
  | cloneDeep a =>
    simp only [stepA] at h
    split at h
    · split at h
      · cases h; exact .append rfl
      · cases h
    · cases h

theorem pushAll_eq (l : List PTree) : pushAll l = l.reverse := by
  rw [pushAll, List.foldl_flip_cons_eq_append', List.append_nil]

theorem popAddPrevious_eq (st acc : List PTree) : popAddPrevious st acc = acc ++ st := by
  induction st generalizing acc with
  | nil => simp [popAddPrevious]
  | cons x xs ih => simp [popAddPrevious, ih]

theorem popAddNext_eq (st acc : List PTree) : popAddNext st acc = st.reverse ++ acc := by
  induction st generalizing acc with
  | nil => simp [popAddNext]
  | cons x xs ih => simp [popAddNext, ih]

theorem stripList_eq_map : ∀ (l : List PTree), stripList l = l.map strip
  | [] => by simp
  | k :: ks => by simp [stripList_eq_map ks]

theorem idsOfList_eq_flatMap : ∀ (l : List PTree), idsOfList l = l.flatMap idsOf
  | [] => by simp
  | k :: ks => by simp [idsOfList_eq_flatMap ks]

theorem stripList_reverse (l : List PTree) : stripList l.reverse = (stripList l).reverse := by
  simp [stripList_eq_map]

theorem idsOfList_reverse_perm (l : List PTree) : (idsOfList l.reverse).Perm (idsOfList l) := by
  rw [idsOfList_eq_flatMap, idsOfList_eq_flatMap]
  exact List.Perm.flatMap_right _ (List.reverse_perm l)

theorem popCopyAddPrevious_eq : ∀ (st acc : List PTree) (n : Nat),
    popCopyAddPrevious n st acc = (acc ++ (cloneListP n st).1, (cloneListP n st).2)
  | [], acc, n => by simp [popCopyAddPrevious]
  | x :: st, acc, n => by
    simp [popCopyAddPrevious, popCopyAddPrevious_eq st]

theorem popCopyAddNext_eq : ∀ (st acc : List PTree) (n : Nat),
    popCopyAddNext n st acc = ((cloneListP n st).1.reverse ++ acc, (cloneListP n st).2)
  | [], acc, n => by simp [popCopyAddNext]
  | x :: st, acc, n => by
    simp [popCopyAddNext, popCopyAddNext_eq st]

theorem cloneDocument_eq (n : Nat) (d : PDoc) :
    cloneDocument n d =
      ({ prologue := (cloneListP (cloneP n d.root).2 d.prologue).1,
         root := (cloneP n d.root).1,
         epilogue := (cloneListP (cloneListP (cloneP n d.root).2 d.prologue).2 d.epilogue.reverse).1.reverse },
       (cloneListP (cloneListP (cloneP n d.root).2 d.prologue).2 d.epilogue.reverse).2) := by
  simp [cloneDocument, pushAll_eq, popCopyAddPrevious_eq, popCopyAddNext_eq]

end Delb.Clone
