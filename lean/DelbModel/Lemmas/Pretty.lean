import DelbModel.Model.Pretty
import DelbModel.Lemmas.Whitespace
import DelbModel.Lemmas.General
/-!
# The pretty serializer (`Model/Pretty.lean`) unfolded, and C18

`prettyKids` and `prettyTag` unfolded (`prettyKids_nil`, `_text`, `_node`, `prettyTag_ok`); C03 (`Lemmas/PrettyTransparent`)
builds on these as well.  C18: on a data-style tree the rendered pieces are the lines of the reference printer `ppRef`
(`pretty_eq_ref`), and each of those lines is indented.
-/
namespace Delb.Pretty
open Delb.Ser Delb.WS

export Delb.WS (node_induct)

/-! ## whitespace facts -/

theorem pyWs_space : pyWs ' ' = true := by decide

theorem collapseAux_allWs (ws : Char → Bool) : ∀ (s : Str), Blank ws s → collapseAux ws true s = []
  | [], _ => rfl
  | c :: cs, h => by
    rw [blank_cons] at h
    rw [collapseAux_cons, if_pos h.1, if_pos rfl, collapseAux_allWs ws cs h.2]

theorem allWs_of_collapseAux (ws : Char → Bool) (s : Str) (b : Bool)
    (h : Blank ws (collapseAux ws b s)) : Blank ws s := by
  fun_induction collapseAux ws b s with
  | case1 => exact blank_nil ws
  | case2 c cs hc ih => exact (blank_cons ..).2 ⟨hc, ih h⟩
  | case3 b c cs hc hb ih => exact (blank_cons ..).2 ⟨hc, ih ((blank_cons ..).1 h).2⟩
  | case4 b c cs hc ih => exact absurd ((blank_cons ..).1 h).1 hc

theorem allWs_of_strip_nil {ws : Char → Bool} {s : Str} (h : strip ws s = []) : Blank ws s := by
  obtain ⟨pre, post, hpre, hpost, e⟩ := strip_decomp ws s
  rw [e, h]
  exact (blank_append ..).2 ⟨hpre, hpost⟩

theorem collapse_eq_space_of_strip_nil {ws : Char → Bool} {s : Str} (hs : s ≠ [])
    (h : strip ws (collapse ws s) = []) : collapse ws s = [' '] := by
  have hall := allWs_of_collapseAux ws s false (allWs_of_strip_nil h)
  obtain ⟨c, cs, rfl⟩ := List.exists_cons_of_ne_nil hs
  rw [blank_cons] at hall
  rw [collapse, collapseAux_cons, if_pos hall.1, if_neg (by decide), collapseAux_allWs ws cs hall.2]

theorem strip_space : strip pyWs [' '] = [] := by
  simp [strip, rtrim, ltrim, pyWs_space]

theorem collapse_space : collapse pyWs [' '] = [' '] := by
  simp [collapse, collapseAux, pyWs_space]

/-! ## lines -/

def unlines (ls : List Str) : Str := ls.flatMap (fun l => l ++ ['\n'])

@[simp] theorem unlines_nil : unlines [] = [] := rfl
@[simp] theorem unlines_cons (l : Str) (ls : List Str) : unlines (l :: ls) = l ++ ['\n'] ++ unlines ls := by
  simp [unlines]
@[simp] theorem unlines_append (a b : List Str) : unlines (a ++ b) = unlines a ++ unlines b := by
  simp [unlines]

theorem joinLines_cons_cons (l l' : Str) (ls : List Str) :
    joinLines (l :: l' :: ls) = l ++ ['\n'] ++ joinLines (l' :: ls) := rfl

theorem joinLines_newline : ∀ (ls : List Str), ls ≠ [] → joinLines ls ++ ['\n'] = unlines ls
  | [], h => absurd rfl h
  | [l], _ => by simp [joinLines]
  | l :: l' :: ls, _ => by
    rw [joinLines_cons_cons, unlines_cons, ← joinLines_newline (l' :: ls) (by simp)]
    simp

theorem joinLines_snoc : ∀ (ls : List Str) (e : Str), joinLines (ls ++ [e]) = unlines ls ++ e
  | [], e => by simp [joinLines]
  | [l], e => by simp [joinLines]
  | l :: l' :: ls, e => by
    have := joinLines_snoc (l' :: ls) e
    simp only [List.cons_append] at this ⊢
    rw [joinLines_cons_cons, this]
    simp

/-- start-tag lines, child lines, end-tag line -/
theorem joinLines_block (a b : List Str) (e : Str) (ha : a ≠ []) :
    joinLines (a ++ b ++ [e]) = joinLines a ++ ['\n'] ++ unlines b ++ e := by
  rw [joinLines_snoc, unlines_append, joinLines_newline a ha]

theorem indentN_succ (o : Opts) (n : Nat) : indentN o (n + 1) = indentN o n ++ o.indent := by
  simp [indentN, List.replicate_succ']

theorem indentN_zero (o : Opts) : indentN o 0 = [] := rfl

/-! ## start tags -/

theorem renderAttrsL_map (W : Str × Str → Str) : ∀ (ad : List (Str × Str)),
    renderAttrsL (ad.map (fun kv => (W kv, kv.1, kv.2)))
      = (ad.map (fun kv => W kv ++ kv.1 ++ ['=', '"'] ++ escapeAttr kv.2 ++ ['"'])).flatten
  | [] => rfl
  | kv :: rest => by
    simp [renderAttrsL, renderAttrsL_map W rest]

theorem joinLines_cons_snoc : ∀ (ls : List Str) (x y : Str),
    joinLines (x :: (ls ++ [y])) = x ++ ls.flatMap (fun l => ['\n'] ++ l) ++ ['\n'] ++ y
  | [], x, y => by simp [joinLines]
  | l :: ls, x, y => by
    simp only [List.cons_append]
    rw [joinLines_cons_cons, joinLines_cons_snoc ls l y]
    simp

/-- `key_width = max(len(k) for k in attributes_data)` -/
def nameWidth (ad : List (Str × Str)) : Nat := (ad.map (·.1.length)).foldl max 0

def namePad (ad : List (Str × Str)) (kv : Str × Str) : Str := List.replicate (nameWidth ad - kv.1.length) ' '

def alignedLines (o : Opts) (level : Nat) (ad : List (Str × Str)) : List Str :=
  ad.map (fun kv => indentN o level ++ [' '] ++ o.indent ++ namePad ad kv ++ kv.1
    ++ ['=', '"'] ++ escapeAttr kv.2 ++ ['"'])

theorem refStartTag_aligned (o : Opts) (hi : o.indent ≠ []) (level : Nat) (qn : Str) (ad : List (Str × Str)) (close : Str)
    (h : (o.align && decide (ad.length > 1)) = true) :
    refStartTag o level qn ad close
      = (indentN o level ++ ['<'] ++ qn) :: (alignedLines o level ad ++ [indentN o level ++ close]) := by
  have hie : o.indent.isEmpty = false := by simpa [List.isEmpty_iff] using hi
  have hne : alignedLines o level ad ≠ [] := by
    have : ad ≠ [] := by
      intro h0; simp [h0] at h
    simpa [alignedLines] using this
  have := dropLast_getLast [] _ hne
  simp only [refStartTag, refAttrs, h, if_true, hie]
  show _ :: (((alignedLines o level ad).dropLast ++ [(alignedLines o level ad).getLast?.getD [], indentN o level ++ close])) = _
  conv => rhs; rw [← this]
  simp

theorem refStartTag_plain (o : Opts) (level : Nat) (qn : Str) (ad : List (Str × Str)) (close : Str)
    (h : ¬ (o.align && decide (ad.length > 1)) = true) :
    refStartTag o level qn ad close
      = [indentN o level ++ ['<'] ++ qn
          ++ (ad.map (fun kv => [' '] ++ kv.1 ++ ['=', '"'] ++ escapeAttr kv.2 ++ ['"'])).flatten ++ close] := by
  simp [refStartTag, refAttrs, h]

theorem refStartTag_ne_nil (o : Opts) (hi : o.indent ≠ []) (level : Nat) (qn : Str) (ad : List (Str × Str)) (close : Str) :
    refStartTag o level qn ad close ≠ [] := by
  by_cases hal : (o.align && decide (ad.length > 1)) = true
  · rw [refStartTag_aligned o hi level qn ad close hal]; simp
  · rw [refStartTag_plain o level qn ad close hal]; simp

theorem render_startTag (o : Opts) (hi : o.indent ≠ []) (level : Nat) (qn : Str) (ad : List (Str × Str)) (close : Str) :
    indentN o level ++ ['<'] ++ qn ++ renderAttrsL (layoutAttrs o level ad).1 ++ (layoutAttrs o level ad).2 ++ close
      = joinLines (refStartTag o level qn ad close) := by
  have hie : o.indent.isEmpty = false := by simpa [List.isEmpty_iff] using hi
  by_cases hal : (o.align && decide (ad.length > 1)) = true
  · rw [refStartTag_aligned o hi level qn ad close hal, joinLines_cons_snoc]
    simp only [layoutAttrs, hal, if_true, hie]
    rw [renderAttrsL_map]
    simp [alignedLines, namePad, nameWidth, List.flatMap_def, Function.comp_def]
  · rw [refStartTag_plain o level qn ad close hal]
    simp only [layoutAttrs, hal]
    simp [joinLines, renderAttrsL_map (fun _ => [' '])]

/-! ## rendering -/

@[simp] theorem renderP_nil : renderP [] = [] := rfl
@[simp] theorem renderP_cons (p : Piece) (ps : List Piece) : renderP (p :: ps) = renderPiece p ++ renderP ps := by
  simp [renderP]
@[simp] theorem renderP_append (a b : List Piece) : renderP (a ++ b) = renderP a ++ renderP b := by
  simp [renderP]

/-! ## unfolding `prettyKids` (its equation lemmas cannot be generated automatically) -/

/-- `serialize_node(k)` for a non-text child -/
def nodeBody (o : Opts) (m : Dict) (level : Nat) : Node → Except Err (List Piece)
  | .comment s => .ok [.comment s]
  | .pi t s => .ok [.pi t s]
  | .tag ns name attrs kids =>
    (match attrsData m (sortAttrs attrs) with
     | .error e => .error e
     | .ok ad => prettyTag o m level ad (.tag ns name attrs kids))
  | .text _ => .ok []

def combine (pre post : List Piece) (body r : Except Err (List Piece)) : Except Err (List Piece) :=
  match body, r with
  | .ok b, .ok r => .ok (pre ++ b ++ post ++ r)
  | .error e, _ => .error e
  | _, .error e => .error e

theorem combine_ok {pre post : List Piece} {body r : Except Err (List Piece)} {ps : List Piece}
    (h : combine pre post body r = .ok ps) :
    ∃ b r', body = .ok b ∧ r = .ok r' ∧ ps = pre ++ b ++ post ++ r' := by
  unfold combine at h
  split at h
  · injection h with h; exact ⟨_, _, rfl, rfl, h.symm⟩
  · cases h
  · cases h

theorem prettyKids_nil (o m level prev run ras) :
    prettyKids o m level prev run ras [] = .ok (flushText o level ras true run) := rfl

theorem prettyKids_text (o m level prev run ras s rest) :
    prettyKids o m level prev run ras (.text s :: rest) =
      if s.isEmpty then prettyKids o m level prev run ras rest
      else prettyKids o m level prev (run ++ [s]) (if run.isEmpty then prev.isNone else ras) rest := rfl

theorem prettyKids_node (o m level prev run ras k rest) (hk : k.isText = false) :
    prettyKids o m level prev run ras (k :: rest) =
      combine (flushText o level ras false run ++
          (if !o.indent.isEmpty && legitBeforeNode (if run.isEmpty then prev else lastText run)
            then [Piece.layout (indentN o level)] else []))
        (if legitAfterNode (rest.find? (fun n => match n with | .text s => !s.isEmpty | _ => true))
          then [Piece.layout ['\n']] else [])
        (nodeBody o m level k) (prettyKids o m level (some k) [] false rest) := by
  cases k with
  | text s => simp [Node.isText] at hk
  | _ => rfl

/-! ## text -/

theorem flushText_space (o : Opts) (level : Nat) (a b : Bool) : flushText o level a b [[' ']] = [] := by
  simp [flushText, normText, collapse_space]

theorem render_flush_leaf (o : Opts) (hi : o.indent ≠ []) (level : Nat) (s : Str) (hs : s ≠ []) :
    renderP (flushText o level true true [s])
      = unlines (if (strip pyWs (normText s)).isEmpty then []
                 else [indentN o level ++ escapeText (strip pyWs (normText s))]) := by
  have hie : o.indent.isEmpty = false := by simpa [List.isEmpty_iff] using hi
  by_cases hc : normText s = [' ']
  · simp [flushText, hc, strip_space]
  · have hne : strip pyWs (normText s) ≠ [] := fun h => hc (collapse_eq_space_of_strip_nil hs h)
    have hne' : (strip pyWs (normText s)).isEmpty = false := by simpa [List.isEmpty_iff] using hne
    rw [hne']
    have e : rtrim pyWs (ltrim pyWs (normText s)) = strip pyWs (normText s) := rfl
    simp [flushText, hc, hie, renderPiece, e]

/-! ## the data-style predicate -/

theorem kids_cases (kids : List Node) :
    kids = [] ∨ (∃ s, kids = [.text s]) ∨ (kids ≠ [] ∧ ∀ s, kids ≠ [.text s]) := by
  by_cases hne : kids = []
  · exact Or.inl hne
  · by_cases hs : ∃ s, kids = [.text s]
    · exact Or.inr (Or.inl hs)
    · exact Or.inr (Or.inr ⟨hne, fun s e => hs ⟨s, e⟩⟩)

theorem dataStyle_tag {ns name : String} {attrs : List Attr} {kids : List Node}
    (h : dataStyle (.tag ns name attrs kids) = true) :
    attrs.any (fun a => a.ns == Gen.xmlNamespace && a.name == "space") = false ∧
    (kids = [] ∨ (∃ s, kids = [.text s] ∧ s ≠ []) ∨
      (dataKids true kids = true ∧ kids ≠ [] ∧ ∀ s, kids ≠ [.text s])) := by
  rcases kids_cases kids with rfl | ⟨s, rfl⟩ | ⟨hne, hnt⟩
  · simp only [dataStyle, Bool.and_true, Bool.not_eq_true'] at h
    exact ⟨h, Or.inl rfl⟩
  · simp only [dataStyle, Bool.and_eq_true, Bool.not_eq_true', List.isEmpty_eq_false_iff] at h
    exact ⟨h.1, Or.inr (Or.inl ⟨s, rfl, h.2⟩)⟩
  · rw [dataStyle.eq_3 _ _ _ _ hne hnt] at h
    simp only [Bool.and_eq_true, Bool.not_eq_true'] at h
    exact ⟨h.1, Or.inr (Or.inr ⟨h.2, hne, hnt⟩)⟩

theorem dataKids_text {b : Bool} {s : Str} {rest : List Node} (h : dataKids b (.text s :: rest) = true) :
    b = false ∧ s = [' '] ∧ rest ≠ [] ∧ dataKids true rest = true := by
  simpa [dataKids, List.isEmpty_iff, and_assoc] using h

theorem dataKids_node {b : Bool} {k : Node} {rest : List Node} (hk : k.isText = false)
    (h : dataKids b (k :: rest) = true) :
    b = true ∧ dataStyle k = true ∧ dataKids false rest = true := by
  rw [dataKids.eq_3 _ _ _ (by intro s hs; simp [hs, Node.isText] at hk)] at h
  simpa [and_assoc] using h

/-! ## unfolding `prettyTag` -/

theorem pfx_ok {m : Dict} {ns p : String} (h : pfx m ns = .ok p) : dget m ns = some p := by
  unfold pfx at h
  split at h
  · injection h with h; subst h; assumption
  · cases h

theorem prettyTag_ok {o : Opts} {m : Dict} {level : Nat} {ad : List (Str × Str)} {ns name : String}
    {attrs : List Attr} {kids : List Node} {ps : List Piece}
    (hdir : directive attrs .default = .default)
    (h : prettyTag o m level ad (.tag ns name attrs kids) = .ok ps) :
    ∃ p, dget m ns = some p ∧
      ((kids = [] ∧ ps = [.stag (p ++ name).toList (layoutAttrs o level ad).1 (layoutAttrs o level ad).2 true]) ∨
       (kids ≠ [] ∧ ∃ ks, prettyKids o m (level + 1) none [] true kids = .ok ks ∧
          ps = [.stag (p ++ name).toList (layoutAttrs o level ad).1 (layoutAttrs o level ad).2 false,
                .layout ['\n']] ++ ks
               ++ (if o.indent.isEmpty then [] else [.layout (indentN o level)]) ++ [.etag (p ++ name).toList])) := by
  rw [prettyTag.eq_1, hdir, if_neg (by decide)] at h
  split at h
  · cases h
  · rename_i p hp
    refine ⟨p, pfx_ok hp, ?_⟩
    simp only at h
    split at h
    · rename_i hk
      injection h with h
      exact Or.inl ⟨by simpa [List.isEmpty_iff] using hk, h.symm⟩
    · rename_i hk
      split at h
      · cases h
      · rename_i ks hks
        injection h with h
        exact Or.inr ⟨by simpa [List.isEmpty_iff] using hk, ks, hks, h.symm⟩

/-! ## the reference printer -/

theorem ppRef_tag_ne_nil (o : Opts) (hi : o.indent ≠ []) (m : Dict) (level : Nat) (ad : List (Str × Str))
    (ns name : String) (attrs : List Attr) (kids : List Node) :
    ppRef o m level ad (.tag ns name attrs kids) ≠ [] := by
  rcases kids_cases kids with rfl | ⟨s, rfl⟩ | ⟨hne, hnt⟩
  · rw [ppRef.eq_1]; exact refStartTag_ne_nil o hi level _ ad _
  · rw [ppRef.eq_2]; simp
  · rw [ppRef.eq_3 _ _ _ _ _ _ _ _ hne hnt]; simp

@[simp] theorem ppRef_text (o m level ad s) : ppRef o m level ad (.text s) = [] := by rw [ppRef]
@[simp] theorem ppRef_comment (o m level ad s) :
    ppRef o m level ad (.comment s) = [indentN o level ++ "<!--".toList ++ s ++ "-->".toList] := by rw [ppRef]
@[simp] theorem ppRef_pi (o m level ad t s) :
    ppRef o m level ad (.pi t s) = [indentN o level ++ "<?".toList ++ t.toList ++ [' '] ++ s ++ "?>".toList] := by
  rw [ppRef]

theorem legitAfter_of_dataKids {rest : List Node} (h : dataKids false rest = true) :
    legitAfterNode (rest.find? (fun n => match n with | .text s => !s.isEmpty | _ => true)) = true := by
  cases rest with
  | nil => rfl
  | cons k rest' =>
    rcases k.text_or_not with ⟨s, rfl⟩ | hk
    · obtain ⟨_, rfl, _, _⟩ := dataKids_text h
      simp [legitAfterNode, firstIsSpace, pyWs_space]
    · cases (dataKids_node hk h).1

theorem nodeBody_tag_ok {o : Opts} {m : Dict} {level : Nat} {ns name : String} {attrs : List Attr}
    {kids : List Node} {b : List Piece} (h : nodeBody o m level (.tag ns name attrs kids) = .ok b) :
    ∃ ad, attrsData m (sortAttrs attrs) = .ok ad ∧ prettyTag o m level ad (.tag ns name attrs kids) = .ok b := by
  simp only [nodeBody] at h
  split at h
  · cases h
  · exact ⟨_, by assumption, h⟩

theorem pretty_eq_ref (o : Opts) (hi : o.indent ≠ []) (m : Dict) :
    (∀ t, dataStyle t = true → ∀ level ad ps, prettyTag o m level ad t = .ok ps →
        indentN o level ++ renderP ps = joinLines (ppRef o m level ad t)) ∧
    (∀ l, ∀ b, dataKids b l = true → ∀ level prev run ras ps,
        (if b then (run = [] ∧ prev = none) ∨ run = [[' ']] else run = []) →
        prettyKids o m level prev run ras l = .ok ps →
        renderP ps = unlines (ppRefKids o m level l)) := by
  have hie : o.indent.isEmpty = false := by simpa [List.isEmpty_iff] using hi
  apply node_induct
  · intro ns name attrs kids ihk hd level ad ps h
    obtain ⟨hno, hk⟩ := dataStyle_tag hd
    obtain ⟨p, hp, hcase⟩ := prettyTag_ok (directive_of_no_space .default hno) h
    have hqn : (dget m ns).getD "" = p := by simp [hp]
    rcases hk with rfl | ⟨s, rfl, hs⟩ | ⟨hdk, hne, hnt⟩
    · rcases hcase with ⟨_, rfl⟩ | ⟨hne, _⟩
      · rw [ppRef.eq_1, hqn, ← render_startTag o hi]
        simp [renderPiece]
      · exact absurd rfl hne
    · rcases hcase with ⟨hnil, _⟩ | ⟨_, ks, hks, rfl⟩
      · cases hnil
      · have hse : s.isEmpty = false := by simpa [List.isEmpty_iff] using hs
        rw [prettyKids_text, hse, prettyKids_nil] at hks
        simp only [Bool.false_eq_true, if_false, List.nil_append, List.isEmpty_nil, Option.isNone_none, if_true] at hks
        injection hks with hks
        subst hks
        rw [ppRef.eq_2, hqn, joinLines_block _ _ _ (refStartTag_ne_nil o hi _ _ _ _), ← render_startTag o hi]
        simp [renderPiece, hie, render_flush_leaf o hi _ s hs]
    · rcases hcase with ⟨hnil, _⟩ | ⟨_, ks, hks, rfl⟩
      · exact absurd hnil hne
      · have := ihk true hdk (level + 1) none [] true ks (by simp) hks
        rw [ppRef.eq_3 _ _ _ _ _ _ _ _ hne hnt, hqn,
          joinLines_block _ _ _ (refStartTag_ne_nil o hi _ _ _ _), ← render_startTag o hi]
        simp [renderPiece, hie, this]
  · intro s hd; simp [dataStyle] at hd
  · intro s _ level ad ps h; simp [prettyTag] at h
  · intro t s _ level ad ps h; simp [prettyTag] at h
  · intro b hd; cases b <;> simp [dataKids] at hd
    intro level prev run ras ps hrun h
    subst hrun
    rw [prettyKids_nil] at h
    injection h with h
    subst h
    simp [flushText, ppRefKids]
  · intro k rest ihk ihrest b hd level prev run ras ps hrun h
    rcases k.text_or_not with ⟨s, rfl⟩ | hk
    · obtain ⟨rfl, rfl, hne, hdk⟩ := dataKids_text hd
      simp only [Bool.false_eq_true, if_false] at hrun
      subst hrun
      rw [prettyKids_text] at h
      simp only [List.isEmpty_cons, Bool.false_eq_true, if_false, List.nil_append] at h
      have := ihrest true hdk level prev [[' ']] _ ps (by simp) h
      rw [this, ppRefKids.eq_3 _ _ _ _ _ (by simp)]
      simp
    · obtain ⟨rfl, hdk, hdrest⟩ := dataKids_node hk hd
      simp only [if_true] at hrun
      rw [prettyKids_node _ _ _ _ _ _ _ _ hk] at h
      obtain ⟨body, r', hb, hr, rfl⟩ := combine_ok h
      have hr' := ihrest false hdrest level (some k) [] false r' (by simp) hr
      have hfl : flushText o level ras false run = [] := by
        rcases hrun with ⟨rfl, _⟩ | rfl
        · simp [flushText]
        · exact flushText_space ..
      have hpre : (!o.indent.isEmpty && legitBeforeNode (if run.isEmpty then prev else lastText run)) = true := by
        rcases hrun with ⟨rfl, rfl⟩ | rfl
        · simp [hie, legitBeforeNode]
        · simp [hie, legitBeforeNode, lastText, lastIsSpace, pyWs_space]
      rw [hfl, hpre, legitAfter_of_dataKids hdrest]
      simp only [if_true, renderP_append, hr']
      cases k with
      | text s => cases hk
      | comment s =>
        cases hb
        rw [ppRefKids.eq_3 _ _ _ _ _ (by simp)]
        simp [renderPiece]
      | pi t s =>
        cases hb
        rw [ppRefKids.eq_3 _ _ _ _ _ (by simp)]
        simp [renderPiece]
      | tag ns name attrs kids =>
        obtain ⟨ad, had, hb⟩ := nodeBody_tag_ok hb
        have := ihk hdk level ad body hb
        rw [ppRefKids.eq_2, had, unlines_append,
          ← joinLines_newline _ (ppRef_tag_ne_nil o hi m level _ ns name attrs kids)]
        simp only [Except.toOption, Option.getD_some]
        rw [← this]
        simp [renderPiece]

/-! ## every reference line is indented -/

theorem indentN_eq_nil (o : Opts) (h : o.indent = []) (n : Nat) : indentN o n = [] := by
  simp [indentN, h]

theorem refStartTag_indented (o : Opts) (level : Nat) (qn : Str) (ad : List (Str × Str)) (close : Str) :
    ∀ l ∈ refStartTag o level qn ad close, indentN o level <+: l := by
  intro l hl
  by_cases hi : o.indent = []
  · rw [indentN_eq_nil o hi]; exact List.nil_prefix
  by_cases hal : (o.align && decide (ad.length > 1)) = true
  · rw [refStartTag_aligned o hi level qn ad close hal] at hl
    simp only [alignedLines, List.mem_cons, List.mem_append, List.mem_map, List.not_mem_nil, or_false] at hl
    rcases hl with rfl | ⟨kv, _, rfl⟩ | rfl <;> simp only [List.append_assoc, List.prefix_append]
  · rw [refStartTag_plain o level qn ad close hal, List.mem_singleton] at hl
    simp only [hl, List.append_assoc, List.prefix_append]

theorem ref_lines_indented (o : Opts) (m : Dict) :
    (∀ t, ∀ level ad, ∀ l ∈ ppRef o m level ad t, indentN o level <+: l) ∧
    (∀ ks, ∀ level, ∀ l ∈ ppRefKids o m level ks, indentN o level <+: l) := by
  apply node_induct
  · intro ns name attrs kids ih level ad l hl
    have hstart := refStartTag_indented o level ((dget m ns).getD "" ++ name).toList ad
    have hdeep : ∀ {l}, indentN o (level + 1) <+: l → indentN o level <+: l := fun h =>
      (indentN_succ o level ▸ List.prefix_append _ _).trans h
    rcases kids_cases kids with rfl | ⟨s, rfl⟩ | ⟨hne, hnt⟩
    · rw [ppRef.eq_1] at hl; exact hstart _ l hl
    · rw [ppRef.eq_2] at hl
      simp only [List.mem_append, List.mem_singleton] at hl
      rcases hl with (hl | hl) | rfl
      · exact hstart _ l hl
      · split at hl
        · cases hl
        · rw [List.mem_singleton.1 hl]; exact hdeep (List.prefix_append _ _)
      · simp only [List.append_assoc, List.prefix_append]
    · rw [ppRef.eq_3 _ _ _ _ _ _ _ _ hne hnt] at hl
      simp only [List.mem_append, List.mem_singleton] at hl
      rcases hl with (hl | hl) | rfl
      · exact hstart _ l hl
      · exact hdeep (ih (level + 1) l hl)
      · simp only [List.append_assoc, List.prefix_append]
  · intro s level ad l hl; simp at hl
  · intro s level ad l hl
    rw [ppRef_comment, List.mem_singleton] at hl
    simp only [hl, List.append_assoc, List.prefix_append]
  · intro t s level ad l hl
    rw [ppRef_pi, List.mem_singleton] at hl
    simp only [hl, List.append_assoc, List.prefix_append]
  · intro level l hl; simp [ppRefKids] at hl
  · intro k rest ihk ihrest level l hl
    cases k with
    | tag ns name attrs kids =>
      rw [ppRefKids.eq_2] at hl
      exact (List.mem_append.1 hl).elim (ihk level _ l) (ihrest level l)
    | _ =>
      rw [ppRefKids.eq_3 _ _ _ _ _ (by simp)] at hl
      exact (List.mem_append.1 hl).elim (ihk level _ l) (ihrest level l)

end Delb.Pretty
