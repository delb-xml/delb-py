import DelbModel.Model.Cache
/-! The lru-cache model answers what the function answers: on one call on a `Sound` store (`call_spec`), and after any
history of calls and clears (`run_answers`). `Props/C16.lean` instantiates them. -/
namespace Delb.Cache

variable {K V E : Type} [DecidableEq K]

theorem lookup_mem {k : K} {v : V} {s : Store K V} (h : lookup k s = some v) : (k, v) ∈ s := by
  fun_induction lookup k s with
  | case1 => cases h
  | case2 v' rest => cases h; exact List.mem_cons_self
  | case3 k' v' rest hk ih => exact List.mem_cons_of_mem _ (ih h)

theorem erase_eq_eraseP (k : K) (s : Store K V) : erase k s = s.eraseP (·.1 = k) := by
  induction s with
  | nil => rfl
  | cons p s ih => by_cases h : p.1 = k <;> simp [erase, h, ih]

theorem mem_of_mem_erase {k : K} {p : K × V} {s : Store K V} (h : p ∈ erase k s) : p ∈ s :=
  List.mem_of_mem_eraseP (erase_eq_eraseP k s ▸ h)

omit [DecidableEq K] in
theorem mem_of_mem_trim {m : Nat} {p : K × V} {s : Store K V} (h : p ∈ trim m s) : p ∈ s := by
  unfold trim at h
  split at h
  · exact h
  · exact List.mem_of_mem_take h

theorem erase_length_of_lookup {k : K} {v : V} {s : Store K V} (h : lookup k s = some v) :
    (erase k s).length + 1 = s.length := by
  have hm := lookup_mem h
  have := List.length_pos_of_mem hm
  rw [erase_eq_eraseP, List.length_eraseP_of_mem hm (by simp)]
  omega

theorem call_spec (f : K → Except E V) (m : Nat) (s : Store K V) (k : K) (hs : Sound f s) :
    (call f m s k).1 = f k ∧ Sound f (call f m s k).2 := by
  unfold call
  split
  · rename_i v hv
    have hk := hs k v (lookup_mem hv)
    refine ⟨hk.symm, fun k' v' hmem => ?_⟩
    rcases List.mem_cons.mp hmem with h | h
    · cases h
      exact hk
    · exact hs k' v' (mem_of_mem_erase h)
  · split
    · rename_i v hv
      refine ⟨hv.symm, fun k' v' hmem => ?_⟩
      rcases List.mem_cons.mp (mem_of_mem_trim hmem) with h | h
      · cases h
        exact hv
      · exact hs k' v' h
    · rename_i e he
      exact ⟨he.symm, hs⟩

theorem call_bounded (f : K → Except E V) (m : Nat) (s : Store K V) (k : K) (hm : 0 < m)
    (hs : s.length ≤ m) : (call f m s k).2.length ≤ m := by
  unfold call
  split
  · rename_i v hv
    have := erase_length_of_lookup hv
    simp only [List.length_cons]
    omega
  · split
    · unfold trim
      have : m ≠ 0 := by omega
      simp only [this, if_false, List.length_take, List.length_cons]
      omega
    · exact hs

theorem run_answers (f : K → Except E V) (m : Nat) :
    ∀ (ops : List (Op K)) (s : Store K V), Sound f s → (run f m s ops).1 = runUncached f ops ∧ Sound f (run f m s ops).2
  | [], s, hs => ⟨rfl, hs⟩
  | .call k :: ops, s, hs => by
    obtain ⟨ha, hs'⟩ := call_spec f m s k hs
    have ih := run_answers f m ops (call f m s k).2 hs'
    simp only [run, runUncached]
    exact ⟨by rw [ha, ih.1], ih.2⟩
  | .clear :: ops, s, _ => by
    have ih := run_answers f m ops ([] : Store K V) (fun _ _ h => by cases h)
    simpa only [run, runUncached] using ih

theorem run_bounded (f : K → Except E V) (m : Nat) (hm : 0 < m) :
    ∀ (ops : List (Op K)) (s : Store K V), s.length ≤ m → (run f m s ops).2.length ≤ m
  | [], _, hs => hs
  | .call k :: ops, s, hs => by
    simp only [run]
    exact run_bounded f m hm ops _ (call_bounded f m s k hm hs)
  | .clear :: ops, _, _ => by
    simp only [run]
    exact run_bounded f m hm ops [] (Nat.zero_le _)

omit [DecidableEq K] in
theorem runUncached_append (f : K → Except E V) (a b : List (Op K)) :
    runUncached f (a ++ b) = runUncached f a ++ runUncached f b := by
  induction a with
  | nil => rfl
  | cons op a ih => cases op <;> simp [runUncached, ih]

theorem call_is_fresh (f : K → Except E V) (m : Nat) (s : Store K V) (hs : Sound f s) (before : List (Op K)) (k : K) :
    ((run f m s (before ++ [.call k])).1).getLast? = some (f k) := by
  rw [(run_answers f m _ s hs).1, runUncached_append]
  exact List.getLast?_concat

end Delb.Cache
