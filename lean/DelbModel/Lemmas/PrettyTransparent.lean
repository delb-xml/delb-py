import DelbModel.Model.Pretty
import DelbModel.Lemmas.Roundtrip
import DelbModel.Lemmas.Whitespace
import DelbModel.Lemmas.Pretty
import DelbModel.Lemmas.PrettyTransparent.Lay
import DelbModel.Lemmas.PrettyTransparent.Strings
import DelbModel.Lemmas.PrettyTransparent.Reduce
/-!
# C03 (width 0): the pretty printer's output, read back and whitespace-reduced, is the tree (`pretty_transparent`)

* `PrettyTransparent/Lay.lean`     — reading the pretty printer's output back gives the laid-out tree
                                      (`prettyRoot_build`: `build (eraseAll ps) = normalize (layNode o 0 t)`)
* `PrettyTransparent/Strings.lean` — whitespace reduction of one written gap gives back its text
* `PrettyTransparent/Reduce.lean`  — whitespace reduction of the laid-out tree gives back the tree (`lay_reduce`)
* this file                        — the hypotheses `Reduced` and `IndentOk`; the pretty printer does not fail
                                      (`prettyRoot_total`, also behind C18); `pretty_transparent` from the two halves

`Lemmas/WrapTransparent` and `Lemmas/WrapFuel` (widths ≥ 1) build on all of this.
-/
namespace Delb.Pretty
open Delb.Ser Delb.WS

/-- a whitespace-reduced document as a parser delivers it -/
def Reduced (t : Node) : Prop := reduceSpec pyWs t = t ∧ merged t = true

/-- `_get_serializer` rejects indentation strings that are not whitespace -/
def IndentOk (o : Opts) : Prop := ∀ c ∈ o.indent, pyWs c = true

theorem attrsData_tag_total {m : Dict} {ns name : String} {attrs : List Attr} {kids : List Node}
    (hm : ∀ ns' ∈ treeNamespaces (.tag ns name attrs kids), (dget m ns').isSome) :
    ∃ ad, attrsData m (sortAttrs attrs) = .ok ad :=
  Ser.attrsData_total (m := m) (sortAttrs attrs) fun a ha => hm a.ns (by
    simp only [treeNamespaces, List.cons_append, List.mem_cons, List.mem_append, List.mem_map]
    exact Or.inr (Or.inl ⟨a, Ser.mem_sortAttrs.mp ha, rfl⟩))

theorem pretty_total_all (o : Opts) (m : Dict) :
    (∀ t, (∀ ns ∈ treeNamespaces t, (dget m ns).isSome) → t.isTag = true →
        ∀ level ad, ∃ ps, prettyTag o m level ad t = .ok ps) ∧
    (∀ l, (∀ ns ∈ kidsNamespaces l, (dget m ns).isSome) →
        ∀ level prev run ras, ∃ ps, prettyKids o m level prev run ras l = .ok ps) := by
  apply Pretty.node_induct
  · intro ns name attrs kids ihk hm _ level ad
    by_cases hd : directive attrs .default = .preserve
    · obtain ⟨toks, he⟩ := emitNode_total (.tag ns name attrs kids) hm
      rw [prettyTag.eq_1, if_pos hd, he]
      split
      · exact ⟨_, rfl⟩
      · exact ⟨_, rfl⟩
      · rename_i heq; cases heq
    · obtain ⟨p, hp⟩ := Option.isSome_iff_exists.1 (hm ns (by simp [treeNamespaces]))
      have hpfx : pfx m ns = .ok p := by simp [pfx, hp]
      obtain ⟨ks, hks⟩ := ihk (fun ns' h' => hm ns' (by simp [treeNamespaces, h'])) (level + 1) none [] true
      rw [prettyTag.eq_1, if_neg hd, hpfx]
      simp only [hks]
      split <;> exact ⟨_, rfl⟩
  · intro s _ h; simp [Node.isTag] at h
  · intro s _ h; simp [Node.isTag] at h
  · intro t s _ h; simp [Node.isTag] at h
  · intro _ level prev run ras
    exact ⟨_, prettyKids_nil ..⟩
  · intro k rest ihk ihrest hm level prev run ras
    have hrest := ihrest (fun ns' h' => hm ns' (by simp [kidsNamespaces, h']))
    rcases k.text_or_not with ⟨s, rfl⟩ | hk
    · rw [prettyKids_text]
      split <;> apply hrest
    · rw [prettyKids_node _ _ _ _ _ _ _ _ hk]
      obtain ⟨r, hr⟩ := hrest level (some k) [] false
      have hb : ∃ b, nodeBody o m level k = .ok b := by
        cases k with
        | text s => cases hk
        | comment s => exact ⟨_, rfl⟩
        | pi t s => exact ⟨_, rfl⟩
        | tag ns name attrs kids =>
          have hm' : ∀ ns' ∈ treeNamespaces (.tag ns name attrs kids), (dget m ns').isSome :=
            fun ns' h' => hm ns' (by simp [kidsNamespaces, h'])
          obtain ⟨ad, had⟩ := attrsData_tag_total hm'
          obtain ⟨b, hb⟩ := ihk hm' rfl level ad
          exact ⟨b, by simp [nodeBody, had, hb]⟩
      obtain ⟨b, hb⟩ := hb
      rw [hb, hr]
      exact ⟨_, rfl⟩

theorem prettyRoot_total (o : Opts) (m : Dict) (t : Node) (htag : t.isTag = true)
    (hm : ∀ ns ∈ treeNamespaces t, (dget m ns).isSome) : ∃ ps, prettyRoot o m t = .ok ps := by
  cases t with
  | tag ns name attrs kids =>
    obtain ⟨ad, had⟩ := attrsData_tag_total hm
    simp only [prettyRoot, had]
    exact (pretty_total_all o m).1 _ hm rfl 0 _
  | _ => simp [Node.isTag] at htag

theorem mem_optLayout {c : Prop} [Decidable c] {s x : Str}
    (h : Piece.layout s ∈ (if c then [Piece.layout x] else [])) : s = x := by
  split at h <;> simp_all

theorem mem_optLayout' {c : Prop} [Decidable c] {s x : Str}
    (h : Piece.layout s ∈ (if c then [] else [Piece.layout x])) : s = x := by
  split at h <;> simp_all

theorem flushText_layout (o : Opts) (hind : AllWs o.indent) (level : Nat) (a b : Bool) (run : List Str) (s : Str)
    (h : Piece.layout s ∈ flushText o level a b run) : AllWs s := by
  cases run with
  | nil => cases h
  | cons first rest =>
    simp only [flushText] at h
    by_cases hc : normText (first :: rest).flatten = [' ']
    · rw [if_pos hc] at h; cases h
    · rw [if_neg hc] at h
      rcases List.mem_append.1 h with h | h
      · rcases List.mem_append.1 h with h | h
        · rw [mem_optLayout h]; exact allWs_indentN o hind level
        · cases List.mem_singleton.1 h
      · rw [mem_optLayout h]; exact allWs_nl

theorem layout_allWs (o : Opts) (hind : AllWs o.indent) (m : Dict) :
    (∀ t, ∀ level ad ps, prettyTag o m level ad t = .ok ps → ∀ s, Piece.layout s ∈ ps → AllWs s) ∧
    (∀ l, ∀ level prev run ras ps, prettyKids o m level prev run ras l = .ok ps →
        ∀ s, Piece.layout s ∈ ps → AllWs s) := by
  apply Pretty.node_induct
  · intro ns name attrs kids ihk level ad ps h s hs
    by_cases hd : directive attrs .default = .preserve
    · rw [prettyTag.eq_1, if_pos hd] at h
      split at h
      · cases h; simp at hs
      · cases h; simp at hs
      · cases h
    · obtain ⟨p, _, hcase⟩ := prettyTag_ok (directive_default_of_ne attrs hd) h
      rcases hcase with ⟨_, rfl⟩ | ⟨_, ks, hks, rfl⟩
      · simp at hs
      · rcases List.mem_append.1 hs with hs | hs
        · rcases List.mem_append.1 hs with hs | hs
          · rcases List.mem_append.1 hs with hs | hs
            · simp only [List.mem_cons, reduceCtorEq, Piece.layout.injEq, List.not_mem_nil, or_false,
                false_or] at hs
              subst hs; exact allWs_nl
            · exact ihk _ _ _ _ _ hks s hs
          · rw [mem_optLayout' hs]; exact allWs_indentN o hind level
        · simp at hs
  · intro s level ad ps h; simp [prettyTag] at h
  · intro s level ad ps h; simp [prettyTag] at h
  · intro t s level ad ps h; simp [prettyTag] at h
  · intro level prev run ras ps h s hs
    rw [prettyKids_nil] at h
    cases h
    exact flushText_layout o hind _ _ _ _ s hs
  · intro k rest ihk ihrest level prev run ras ps h s hs
    rcases k.text_or_not with ⟨t, rfl⟩ | hk
    · rw [prettyKids_text] at h
      split at h <;> exact ihrest _ _ _ _ _ h s hs
    · rw [prettyKids_node _ _ _ _ _ _ _ _ hk] at h
      obtain ⟨body, r', hb, hr, rfl⟩ := combine_ok h
      simp only [List.mem_append] at hs
      rcases hs with (((hs | hs) | hs) | hs) | hs
      · exact flushText_layout o hind _ _ _ _ s hs
      · rw [mem_optLayout hs]; exact allWs_indentN o hind level
      · cases k with
        | text t => cases hk
        | comment c => cases hb; simp at hs
        | pi t c => cases hb; simp at hs
        | tag ns name attrs kids =>
          obtain ⟨ad, _, hb⟩ := nodeBody_tag_ok hb
          exact ihk _ _ _ hb s hs
      · rw [mem_optLayout hs]; exact allWs_nl
      · exact ihrest _ _ _ _ _ hr s hs

theorem prettyRoot_layout (o : Opts) (hind : AllWs o.indent) (m : Dict) (t : Node) (ps : List Piece)
    (h : prettyRoot o m t = .ok ps) : ∀ s, Piece.layout s ∈ ps → AllWs s := by
  cases t with
  | tag ns name attrs kids =>
    simp only [prettyRoot] at h
    split at h
    · cases h
    · exact (layout_allWs o hind m).1 _ _ _ _ h
  | _ => simp [prettyRoot] at h

theorem fullTextList_mergeKids : ∀ l : List Node, fullTextList (Ser.mergeKids l) = fullTextList l := by
  intro l
  induction l using kids_induct with
  | nil => simp [Ser.mergeKids]
  | text s rest ih =>
    rw [mergeKids_text_cons, fullTextList_cons, fullText_text, ← ih]
    split
    · simp [*]
    · split <;> simp [*]
  | node k rest hk ih => rw [mk_node _ _ hk]; simp [ih]

theorem fullText_normalize :
    (∀ t, fullText (normalize t) = fullText t) ∧ (∀ l, fullTextList (normalizeList l) = fullTextList l) := by
  apply Pretty.node_induct
  · intro ns name attrs kids ih
    simp [normalize, fullTextList_mergeKids, ih]
  · intro s; simp [normalize]
  · intro s; simp [normalize]
  · intro t s; simp [normalize]
  · simp [normalizeList]
  · intro k ks ihk ihks; simp [normalizeList, ihk, ihks]

theorem pretty_transparent (o : Opts) (ho : IndentOk o) {m : Dict} (hc : MapCtx m) (t : Node)
    (htag : t.isTag = true) (hs : Serializable t) (hr : Reduced t) (ps : List Piece)
    (h : prettyRoot o m t = .ok ps) :
    ∃ u, build (eraseAll ps) = some u ∧ reduceSpec pyWs u = normalize t := by
  have hbuild := prettyRoot_build hc o t htag hs ps h
  have hreduce := (lay_reduce o ho).1 t hs hr.2 hr.1 0
  exact ⟨_, hbuild, hreduce⟩

end Delb.Pretty
