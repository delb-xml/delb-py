import DelbModel.Model.Scan
import DelbModel.Lemmas.Escape
/-!
# The scanner reads rendered tokens back (`scan_render`)

Every construct has a *prefix lemma* `scanX (renderX x ++ rest) = some (x, rest)`; the round trip
`scanToks fuel (render ts) = some ts` for merged token lists follows by induction on the list, and
`scan (render ts) = some (mergeChars ts)` for well-formed tokens from it, `render` not seeing the merge.
-/
namespace Delb.Ser

/-! ## character classes -/

theorem nameChar_not_ws {c : Char} (h : nameChar c = true) : isWs c = false := by
  simp only [nameChar, Bool.and_eq_true, Bool.not_eq_true', Bool.or_eq_false_iff] at h
  exact h.2.2

theorem nameChar_docChar {c : Char} (h : nameChar c = true) : docChar c = true := by
  have hw := nameChar_not_ws h
  simp only [isWs, Bool.or_eq_false_iff] at hw
  simp only [nameChar, Bool.and_eq_true] at h
  rw [docChar, h.1, bne, hw.2]
  rfl

theorem nameChar_ne {c d : Char} (hc : nameChar c = true) (hd : nameChar d = false) : c ≠ d :=
  fun e => by rw [e, hd] at hc; cases hc

theorem docChar_xmlChar {c : Char} (h : docChar c = true) : xmlChar c = true := by
  simp only [docChar, Bool.and_eq_true] at h; exact h.1

theorem docChar_ne_cr {c : Char} (h : docChar c = true) : c ≠ '\r' := by
  simp only [docChar, Bool.and_eq_true, bne_iff_ne] at h; exact h.2

/-! ## the scanner's primitives on what `render` writes -/

theorem takeName_append (n : Str) (c : Char) (r : Str) (hn : ∀ x ∈ n, nameChar x = true)
    (hc : nameChar c = false) : takeName (n ++ c :: r) = (n, c :: r) := by
  induction n with
  | nil => simp [takeName, hc]
  | cons x n ih =>
    rw [List.forall_mem_cons] at hn
    simp [takeName, hn.1, ih hn.2]

theorem skipWs_cons {c : Char} (r : Str) (h : isWs c = false) : skipWs (c :: r) = c :: r := by
  simp [skipWs, h]

theorem takeUntil_append (d : Char) (v r : Str) (h : d ∉ v) :
    takeUntil d (v ++ d :: r) = some (v, r) := by
  induction v with
  | nil => simp [takeUntil]
  | cons x v ih =>
    rw [List.mem_cons, not_or] at h
    simp [takeUntil, Ne.symm h.1, ih h.2]

/-- where character data ends: at the end of the input or before markup -/
def TextEnd (r : Str) : Prop := r = [] ∨ ∃ r', r = '<' :: r'

theorem takeText_append (s r : Str) (h : '<' ∉ s) (hr : TextEnd r) :
    takeText (s ++ r) = (s, r) := by
  induction s with
  | nil =>
    rcases hr with rfl | ⟨r', rfl⟩ <;> simp [takeText]
  | cons x s ih =>
    rw [List.mem_cons, not_or] at h
    simp [takeText, Ne.symm h.1, ih h.2]

theorem normEol_id (s : Str) (h : '\r' ∉ s) : normEol false s = s := by
  induction s with
  | nil => simp [normEol]
  | cons x s ih =>
    rw [List.mem_cons, not_or] at h
    simp [normEol, Ne.symm h.1, ih h.2]

theorem normAttr_id (s : Str) (h : ∀ c ∈ s, isWs c = false ∨ c = ' ') : normAttr s = s := by
  rw [normAttr, List.map_congr_left (g := id), List.map_id]
  intro c hc
  rcases h c hc with hx | hx <;> simp [hx]

/-! ## escaped strings -/

theorem entities_doc : ∀ p ∈ entities, ∀ c ∈ p.1, docChar c = true ∧ isWs c = false := by
  rw [entities_eq]; decide +kernel

theorem refsOk_append_of_no_amp : ∀ (l r : Str), '&' ∉ l → refsOk (l ++ r) = refsOk r
  | [], _, _ => rfl
  | c :: l, r, h => by
    rw [List.mem_cons, not_or] at h
    rw [List.cons_append, refsOk, refsOk_append_of_no_amp l r h.2]
    simp [Ne.symm h.1]

theorem refsOk_entity {p : List Char × Char} (hp : p ∈ entities) (rest : Str) :
    refsOk (p.1 ++ rest) = refsOk rest := by
  have hm := matchEntity_entity p hp rest
  obtain ⟨he, ht⟩ := entities_chars p hp
  generalize p.1.tail = e at he ht
  rw [he, List.cons_append] at hm ⊢
  rw [refsOk, hm, refsOk_append_of_no_amp e rest ht]
  rfl

theorem refsOk_escape {T : List (Char × List Char)} (hT : EntityTable T) (s : Str) :
    refsOk (escape T s) = true := by
  induction s with
  | nil => rfl
  | cons c s ih =>
    rw [escape_cons]
    rcases hT c with ⟨hc, hne⟩ | hc
    · rw [hc, List.singleton_append, refsOk, ih]
      simp [hne]
    · rw [refsOk_entity hc, ih]

theorem hasCDEnd_false (s : Str) (h : '>' ∉ s) : hasCDEnd s = false := by
  induction s with
  | nil => rfl
  | cons c s ih =>
    rw [List.mem_cons, not_or] at h
    have : s.tail.head? ≠ some '>' := fun e =>
      h.2 (List.mem_of_mem_tail (List.mem_of_mem_head? (Option.mem_def.mpr e)))
    rw [hasCDEnd, ih h.2, Bool.or_false,
      beq_eq_false_iff_ne.mpr this, Bool.and_false]

/-! ## comments and processing instructions -/

theorem scanComment_append (s r : Str) (h : commentBody s = true) :
    scanComment (s ++ '-' :: '-' :: '>' :: r) = some (s, r) := by
  induction s using commentBody.induct with
  | case1 => simp [scanComment]
  | case2 => simp [commentBody] at h
  | case3 d ds ih =>
    simp only [commentBody, if_true, Bool.and_eq_true, bne_iff_ne, ne_eq] at h
    simp [scanComment, h.1, ih h.2]
  | case4 c cs hc ih =>
    rw [commentBody.eq_def] at h
    simp only [hc, if_false] at h
    rw [List.cons_append, scanComment.eq_def]
    simp [hc, ih h]

theorem splitPI_append (s r : Str) (h : hasPIEnd s = false) :
    splitPI (s ++ '?' :: '>' :: r) = some (s, r) := by
  induction s with
  | nil => simp [splitPI]
  | cons c s ih =>
    simp only [hasPIEnd, Bool.or_eq_false_iff] at h
    rw [List.cons_append, splitPI, ih h.2, if_neg]
    cases s with
    | nil => simp
    | cons d s => simpa using h.1

/-! ## the comment grammar and `?>` in other words -/

theorem commentBody_iff (s : Str) :
    commentBody s = true ↔ (∀ a b, s ≠ a ++ '-' :: '-' :: b) ∧ (∀ a, s ≠ a ++ ['-']) := by
  refine Iff.trans ?_ (and_congr (not_infix_iff (l := ['-', '-'])) not_suffix_iff)
  induction s using commentBody.induct with
  | case1 => simp [commentBody]
  | case2 => simp [commentBody]
  | case3 d ds ih =>
    simp only [commentBody, if_true, Bool.and_eq_true, bne_iff_ne, ne_eq, ih, List.infix_cons_iff,
      List.suffix_cons_iff, List.cons_prefix_cons, true_and]
    by_cases hd : d = '-'
    · simp [hd]
    · simp [hd, Ne.symm hd]
  | case4 c cs hc ih =>
    rw [commentBody.eq_def]
    simp only [hc, if_false, ih, List.infix_cons_iff, List.suffix_cons_iff, List.cons_prefix_cons]
    simp [Ne.symm hc]

theorem hasPIEnd_false_iff (s : Str) : hasPIEnd s = false ↔ ∀ a b, s ≠ a ++ '?' :: '>' :: b := by
  refine Iff.trans ?_ (not_infix_iff (l := ['?', '>']))
  induction s with
  | nil => simp [hasPIEnd]
  | cons c cs ih =>
    simp only [hasPIEnd, Bool.or_eq_false_iff, ih, List.infix_cons_iff, List.cons_prefix_cons, not_or]
    cases cs with
    | nil => simp
    | cons d ds => simp [eq_comm (a := c), eq_comm (a := d)]

/-! ## token well-formedness, unpacked -/

theorem nameOk_iff {n : Str} : nameOk n = true ↔ n ≠ [] ∧ ∀ x ∈ n, nameChar x = true := by
  simp [nameOk, List.all_eq_true]

theorem nameOk_cons {n : Str} (h : nameOk n = true) : ∃ x n', n = x :: n' ∧ nameChar x = true := by
  obtain ⟨h1, h2⟩ := nameOk_iff.mp h
  cases n with
  | nil => exact absurd rfl h1
  | cons x n' => exact ⟨x, n', rfl, h2 x (by simp)⟩

theorem nameOk_isEmpty {n : Str} (h : nameOk n = true) : n.isEmpty = false := by
  obtain ⟨x, n', rfl, _⟩ := nameOk_cons h
  rfl

theorem takeName_name {n : Str} (h : nameOk n = true) {c : Char} (hc : nameChar c = false) (r : Str) :
    takeName (n ++ c :: r) = (n, c :: r) :=
  takeName_append n c r (nameOk_iff.mp h).2 hc

theorem valueOk_iff {v : Str} :
    valueOk v = true ↔ ∀ c ∈ v, docChar c = true ∧ (isWs c = false ∨ c = ' ') := by
  simp only [valueOk, List.all_eq_true]
  refine forall₂_congr fun c _ => ?_
  by_cases hs : c = ' '
  · subst hs; decide
  · simp [hs]

/-! ## the attributes of a start tag -/

theorem unescape_normAttr_escapeAttr (v : Str) (hv : valueOk v = true) :
    unescape (normAttr (escapeAttr v)) = v := by
  rw [normAttr_id, escapeAttr_eq, unescape_escape_attr]
  intro c hc
  rcases mem_escapeAttr hc with h | ⟨p, hp, h⟩
  · exact (valueOk_iff.mp hv c h).2
  · exact Or.inl (entities_doc p hp c h).2

theorem scanAttrs_attr (fuel : Nat) (k raw R : Str) (hk : nameOk k = true) (hq : '"' ∉ raw)
    (hlt : '<' ∉ raw) (href : refsOk raw = true) :
    scanAttrs (fuel+1) (' ' :: (k ++ '=' :: '"' :: (raw ++ '"' :: R))) =
      match scanAttrs fuel R with
      | some (as, sc, rest) => some ((k, unescape (normAttr raw)) :: as, sc, rest)
      | none => none := by
  have htn := takeName_name hk (c := '=') (by decide) ('"' :: (raw ++ '"' :: R))
  have htu := takeUntil_append '"' raw R hq
  obtain ⟨x, k', rfl, hx⟩ := nameOk_cons hk
  have hgt : x ≠ '>' := nameChar_ne hx (by decide)
  have hsl : x ≠ '/' := nameChar_ne hx (by decide)
  rw [scanAttrs]
  have hsk : skipWs (' ' :: (x :: k' ++ '=' :: '"' :: (raw ++ '"' :: R))) =
      x :: (k' ++ '=' :: '"' :: (raw ++ '"' :: R)) := by
    rw [skipWs]; simp only [show isWs ' ' = true by decide, if_true, List.cons_append]
    exact skipWs_cons _ (nameChar_not_ws hx)
  rw [hsk]
  simp only [hgt, hsl, if_false, List.head?_cons, Option.any_some,
    show isWs ' ' = true by decide, Bool.not_true, Bool.false_eq_true]
  rw [← List.cons_append, htn]
  simp only [List.isEmpty_cons, bne_self_eq_false, Bool.or_self, Bool.false_eq_true, if_false, htu]
  simp only [hlt, href, List.contains_eq_mem, decide_false, Bool.not_true, Bool.or_self, Bool.false_eq_true, if_false]
  rfl

theorem renderAttrs_cons_append (k v : Str) (as : List (Str × Str)) (X : Str) :
    renderAttrs ((k, v) :: as) ++ X =
      ' ' :: (k ++ '=' :: '"' :: (escapeAttr v ++ '"' :: (renderAttrs as ++ X))) := by
  simp [renderAttrs]

def closeOf (sc : Bool) : Str := if sc then ['/', '>'] else ['>']

theorem scanAttrs_close (fuel : Nat) (sc : Bool) (rest : Str) :
    scanAttrs (fuel+1) (closeOf sc ++ rest) = some ([], sc, rest) := by
  cases sc
  · rw [scanAttrs]; simp [closeOf, skipWs, isWs]
  · rw [scanAttrs]; simp [closeOf, skipWs, isWs]

theorem scanAttrs_render (sc : Bool) (rest : Str) : ∀ (attrs : List (Str × Str)) (fuel : Nat),
    attrs.length < fuel → (∀ kv ∈ attrs, nameOk kv.1 = true ∧ valueOk kv.2 = true) →
    scanAttrs fuel (renderAttrs attrs ++ (closeOf sc ++ rest)) = some (attrs, sc, rest) := by
  intro attrs
  induction attrs with
  | nil =>
    intro fuel hf _
    cases fuel with
    | zero => omega
    | succ fuel => simpa [renderAttrs] using scanAttrs_close fuel sc rest
  | cons kv as ih =>
    intro fuel hf hok
    obtain ⟨k, v⟩ := kv
    cases fuel with
    | zero => omega
    | succ fuel =>
      have h1 := hok (k, v) (by simp)
      have hsafe := escape_attrTable_safe v
      rw [renderAttrs_cons_append, scanAttrs_attr fuel k (escapeAttr v) _ h1.1 hsafe.2.2 hsafe.1 (refsOk_escape entityTable_attr v),
        unescape_normAttr_escapeAttr v h1.2, ih fuel (by simp at hf; omega) (fun kv hkv => hok kv (by simp [hkv]))]

theorem renderAttrs_length (attrs : List (Str × Str)) : attrs.length ≤ (renderAttrs attrs).length := by
  induction attrs with
  | nil => simp
  | cons kv as ih =>
    obtain ⟨k, v⟩ := kv
    simp only [renderAttrs, List.length_append, List.length_cons]
    omega

theorem afterName_stag (attrs : List (Str × Str)) (sc : Bool) (rest : Str) :
    ∃ c r, renderAttrs attrs ++ (closeOf sc ++ rest) = c :: r ∧ nameChar c = false := by
  cases attrs with
  | nil =>
    cases sc
    · exact ⟨'>', rest, by simp [renderAttrs, closeOf], by decide⟩
    · exact ⟨'/', '>' :: rest, by simp [renderAttrs, closeOf], by decide⟩
  | cons kv as =>
    obtain ⟨k, v⟩ := kv
    exact ⟨' ', _, renderAttrs_cons_append k v as _, by decide⟩

/-! ## one token -/

theorem scanSTag_render (qn : Str) (attrs : List (Str × Str)) (sc : Bool) (rest : Str)
    (hq : nameOk qn = true) (ha : ∀ kv ∈ attrs, nameOk kv.1 = true ∧ valueOk kv.2 = true)
    (hd : distinct (attrs.map (·.1)) = true) :
    scanSTag (qn ++ (renderAttrs attrs ++ (closeOf sc ++ rest))) = some (.stag qn attrs sc, rest) := by
  obtain ⟨c, r, hcr, hc⟩ := afterName_stag attrs sc rest
  have htn : takeName (qn ++ (renderAttrs attrs ++ (closeOf sc ++ rest))) =
      (qn, renderAttrs attrs ++ (closeOf sc ++ rest)) := by
    rw [hcr]; exact takeName_name hq hc r
  have hfuel : attrs.length < (qn ++ (renderAttrs attrs ++ (closeOf sc ++ rest))).length + 1 := by
    have := renderAttrs_length attrs
    simp only [List.length_append]
    omega
  unfold scanSTag
  simp only [htn, nameOk_isEmpty hq, scanAttrs_render sc rest attrs _ hfuel ha, hd, if_true, Bool.false_eq_true, if_false]

theorem scanETag_render (qn rest : Str) (hq : nameOk qn = true) :
    scanETag (qn ++ '>' :: rest) = some (.etag qn, rest) := by
  have htn := takeName_name hq (c := '>') (by decide) rest
  unfold scanETag
  simp only [htn, nameOk_isEmpty hq, skipWs_cons rest (show isWs '>' = false by decide), if_true, Bool.false_eq_true, if_false]

theorem scanPI_render (t : String) (s rest : Str) (ht : nameOk t.toList = true)
    (hx : isXmlTarget t.toList = false) (he : hasPIEnd s = false) (hw : s.head?.any isWs = false) :
    scanPI (t.toList ++ ' ' :: (s ++ '?' :: '>' :: rest)) = some (.pi t s, rest) := by
  have htn := takeName_name ht (c := ' ') (by decide) (s ++ '?' :: '>' :: rest)
  have hsk : skipWs (s ++ '?' :: '>' :: rest) = s ++ '?' :: '>' :: rest := by
    cases s with
    | nil => exact skipWs_cons _ (by decide)
    | cons c s => exact skipWs_cons _ (by simpa using hw)
  unfold scanPI
  simp only [htn, nameOk_isEmpty ht, hx, Bool.or_false, show isWs ' ' = true by decide, if_true, hsk,
    splitPI_append s rest he, String.ofList_toList, Bool.false_eq_true, if_false]

theorem scanText_render (s rest : Str) (hr : TextEnd rest) :
    scanText (escapeText s ++ rest) = some (.chars s, rest) := by
  have hsafe : '<' ∉ escapeText s ∧ '>' ∉ escapeText s := escape_textTable_safe s
  have htt := takeText_append (escapeText s) rest hsafe.1 hr
  have href : refsOk (escapeText s) = true := refsOk_escape entityTable_text s
  have hcd := hasCDEnd_false (escapeText s) hsafe.2
  have hun : unescape (escapeText s) = s := unescape_escape_text s
  unfold scanText
  simp [htt, href, hcd, hun]

theorem comment_open_lit : "<!--".toList = ['<', '!', '-', '-'] := toList_of_eq_ofList rfl
theorem comment_close_lit : "-->".toList = ['-', '-', '>'] := toList_of_eq_ofList rfl
theorem pi_open_lit : "<?".toList = ['<', '?'] := toList_of_eq_ofList rfl
theorem pi_close_lit : "?>".toList = ['?', '>'] := toList_of_eq_ofList rfl

def isChars : Tok → Bool
  | .chars _ => true
  | _ => false

theorem renderTok_lt (t : Tok) (h : isChars t = false) : ∃ r, renderTok t = '<' :: r := by
  cases t with
  | stag qn attrs sc => exact ⟨_, rfl⟩
  | etag qn => exact ⟨_, rfl⟩
  | chars s => cases h
  | comment s => rw [renderTok, comment_open_lit]; exact ⟨_, rfl⟩
  | pi t s => rw [renderTok, pi_open_lit]; exact ⟨_, rfl⟩

theorem scanTok_render (t : Tok) (rest : Str) (hok : tokOk t = true)
    (hch : ∀ s, t = .chars s → s ≠ [] ∧ TextEnd rest) :
    scanTok (renderTok t ++ rest) = some (t, rest) := by
  cases t with
  | stag qn attrs sc =>
    simp only [tokOk, Bool.and_eq_true, List.all_eq_true] at hok
    obtain ⟨⟨hq, ha⟩, hd⟩ := hok
    obtain ⟨x, qn', rfl, hx⟩ := nameOk_cons hq
    simp only [renderTok, List.append_assoc, List.cons_append, List.nil_append, scanTok, if_true, scanMarkup,
      (nameChar_ne hx (by decide) : x ≠ '!'), (nameChar_ne hx (by decide) : x ≠ '?'),
      (nameChar_ne hx (by decide) : x ≠ '/'), if_false]
    exact scanSTag_render (x :: qn') attrs sc rest hq ha hd
  | etag qn =>
    simp only [tokOk] at hok
    simp only [renderTok, List.append_assoc, List.cons_append, List.nil_append, scanTok, if_true, scanMarkup,
      show ('/' : Char) ≠ '!' by decide, show ('/' : Char) ≠ '?' by decide, if_false]
    exact scanETag_render qn rest hok
  | chars s =>
    obtain ⟨hne, hr⟩ := hch s rfl
    obtain ⟨c, r, hcr, hc⟩ := escapeText_ne_nil hne
    have := scanText_render s rest hr
    simp only [renderTok]
    rw [hcr] at this ⊢
    simp only [List.cons_append, scanTok, hc, if_false] at this ⊢
    exact this
  | comment s =>
    simp only [tokOk, Bool.and_eq_true] at hok
    simp only [renderTok, comment_open_lit, comment_close_lit, List.append_assoc, List.cons_append, List.nil_append,
      scanTok, if_true, scanMarkup, scanComment_append s rest hok.2, Bool.and_self, decide_true]
  | pi t s =>
    simp only [tokOk, Bool.and_eq_true, Bool.not_eq_true'] at hok
    obtain ⟨⟨⟨⟨ht, hx⟩, _⟩, he⟩, hw⟩ := hok
    simp only [renderTok, pi_open_lit, pi_close_lit, List.append_assoc, List.cons_append, List.nil_append,
      scanTok, if_true, scanMarkup, show ('?' : Char) ≠ '!' by decide, if_false]
    exact scanPI_render t s rest ht hx he hw

/-! ## token lists -/

/-- no empty and no adjacent character data -/
def Merged : List Tok → Bool
  | [] => true
  | .chars s :: rest => !s.isEmpty && !(rest.head?.any isChars) && Merged rest
  | _ :: rest => Merged rest

theorem render_cons (t : Tok) (ts : List Tok) : render (t :: ts) = renderTok t ++ render ts := by
  simp [render]

theorem textEnd_render {ts : List Tok} (h : ts.head?.any isChars = false) :
    TextEnd (render ts) := by
  cases ts with
  | nil => left; rfl
  | cons t ts =>
    right
    obtain ⟨r, hr⟩ := renderTok_lt t h
    exact ⟨r ++ render ts, by rw [render_cons, hr]; rfl⟩

theorem renderTok_ne_nil (t : Tok) (h : ∀ s, t = .chars s → s ≠ []) : renderTok t ≠ [] := by
  cases hc : isChars t with
  | false =>
    obtain ⟨r, hr⟩ := renderTok_lt t hc
    simp [hr]
  | true =>
    cases t with
    | chars s =>
      obtain ⟨c, r, hcr, _⟩ := escapeText_ne_nil (h s rfl)
      simp [renderTok, hcr]
    | _ => cases hc

theorem merged_tail {t : Tok} {ts : List Tok} (h : Merged (t :: ts) = true) : Merged ts = true := by
  cases t <;> simp_all [Merged]

theorem scanToks_render : ∀ (ts : List Tok) (fuel : Nat), Merged ts = true → ts.all tokOk = true →
    (render ts).length < fuel → scanToks fuel (render ts) = some ts := by
  intro ts
  induction ts with
  | nil => intro fuel _ _ _; simp [render, scanToks]
  | cons t ts ih =>
    intro fuel hm hok hf
    simp only [List.all_cons, Bool.and_eq_true] at hok
    have hch : ∀ s, t = .chars s → s ≠ [] ∧ TextEnd (render ts) := by
      intro s e; subst e
      simp only [Merged, Bool.and_eq_true, Bool.not_eq_true', List.isEmpty_eq_false_iff] at hm
      exact ⟨hm.1.1, textEnd_render hm.1.2⟩
    obtain ⟨c, cs, hcs⟩ := List.exists_cons_of_ne_nil (renderTok_ne_nil t fun s e => (hch s e).1)
    have hst := scanTok_render t (render ts) hok.1 hch
    rw [render_cons, hcs, List.cons_append] at hf ⊢
    rw [hcs, List.cons_append] at hst
    cases fuel with
    | zero => omega
    | succ fuel =>
      rw [scanToks, hst]
      dsimp only
      rw [ih fuel (merged_tail hm) hok.2 (by simp only [List.length_cons, List.length_append] at hf; omega)]

/-! ## `mergeChars` -/

theorem not_chars_head {l : List Tok} (h : ∀ t r, l = .chars t :: r → False) :
    l.head?.any isChars = false := by
  cases l with
  | nil => rfl
  | cons u us =>
    cases u with
    | chars t => exact absurd rfl (h t us)
    | _ => rfl

theorem merged_mergeChars (ts : List Tok) : Merged (mergeChars ts) = true := by
  fun_induction mergeChars ts with
  | case1 => rfl
  | case2 s rest t rest' heq ih =>
    rw [heq] at ih
    simp only [Merged, Bool.and_eq_true, Bool.not_eq_true', List.isEmpty_eq_false_iff] at ih ⊢
    exact ⟨⟨fun e => ih.1.1 (List.append_eq_nil_iff.mp e).2, ih.1.2⟩, ih.2⟩
  | case3 rest _ ih => exact ih
  | case4 s rest hs hne ih =>
    simp only [Merged, Bool.and_eq_true, Bool.not_eq_true', List.isEmpty_eq_false_iff]
    exact ⟨⟨hs, not_chars_head hne⟩, ih⟩
  | case5 t rest hne ih =>
    cases t with
    | chars s => exact absurd rfl (hne s)
    | _ => exact ih

theorem tokOk_mergeChars (ts : List Tok) (h : ts.all tokOk = true) :
    (mergeChars ts).all tokOk = true := by
  fun_induction mergeChars ts with
  | case1 => rfl
  | case2 s rest t rest' heq ih =>
    simp only [List.all_cons, Bool.and_eq_true] at h
    have ih := ih h.2
    rw [heq] at ih
    simp only [List.all_cons, Bool.and_eq_true, tokOk, textOk, List.all_append] at h ih ⊢
    exact ⟨⟨h.1, ih.1⟩, ih.2⟩
  | case3 rest _ ih =>
    simp only [List.all_cons, Bool.and_eq_true] at h
    exact ih h.2
  | case4 s rest _ _ ih =>
    simp only [List.all_cons, Bool.and_eq_true] at h ⊢
    exact ⟨h.1, ih h.2⟩
  | case5 t rest _ ih =>
    simp only [List.all_cons, Bool.and_eq_true] at h ⊢
    exact ⟨h.1, ih h.2⟩

theorem render_mergeChars (ts : List Tok) : render (mergeChars ts) = render ts := by
  fun_induction mergeChars ts with
  | case1 => rfl
  | case2 s rest t rest' heq ih =>
    rw [heq] at ih
    rw [render_cons, render_cons, ← ih, render_cons]
    simp only [renderTok, escapeText_eq, escape_append, List.append_assoc]
  | case3 rest _ ih => exact ih
  | case4 s rest _ _ ih => rw [render_cons, render_cons, ih]
  | case5 t rest _ ih => rw [render_cons, render_cons, ih]

/-! ## the rendered string consists of document characters -/

def DocAll (l : Str) : Prop := ∀ c ∈ l, docChar c = true

theorem DocAll.append {a b : Str} (ha : DocAll a) (hb : DocAll b) : DocAll (a ++ b) :=
  List.forall_mem_append.mpr ⟨ha, hb⟩

theorem textOk_iff {s : Str} : textOk s = true ↔ DocAll s := by
  simp [textOk, DocAll, List.all_eq_true]

theorem docAll_name {n : Str} (h : nameOk n = true) : DocAll n :=
  fun c hc => nameChar_docChar ((nameOk_iff.mp h).2 c hc)

theorem docAll_escapeText {s : Str} (h : textOk s = true) : DocAll (escapeText s) := by
  intro c hc
  rcases mem_escapeText hc with h' | ⟨p, hp, h'⟩
  · exact textOk_iff.mp h c h'
  · exact (entities_doc p hp c h').1

theorem docAll_escapeAttr {s : Str} (h : valueOk s = true) : DocAll (escapeAttr s) := by
  intro c hc
  rcases mem_escapeAttr hc with h' | ⟨p, hp, h'⟩
  · exact (valueOk_iff.mp h c h').1
  · exact (entities_doc p hp c h').1

theorem docAll_renderAttrs : ∀ (attrs : List (Str × Str)),
    (∀ kv ∈ attrs, nameOk kv.1 = true ∧ valueOk kv.2 = true) → DocAll (renderAttrs attrs) := by
  intro attrs
  induction attrs with
  | nil => intro _; exact nofun
  | cons kv as ih =>
    intro h
    have h1 := h kv (by simp)
    rw [renderAttrs]
    exact (((((textOk_iff.mp (by decide)).append (docAll_name h1.1)).append (textOk_iff.mp (by decide))).append
      (docAll_escapeAttr h1.2)).append (textOk_iff.mp (by decide))).append (ih fun kv hkv => h kv (by simp [hkv]))

theorem docAll_renderTok (t : Tok) (h : tokOk t = true) : DocAll (renderTok t) := by
  cases t with
  | stag qn attrs sc =>
    simp only [tokOk, Bool.and_eq_true, List.all_eq_true] at h
    obtain ⟨⟨hq, ha⟩, _⟩ := h
    simp only [renderTok]
    refine (((textOk_iff.mp (by decide)).append (docAll_name hq)).append (docAll_renderAttrs attrs ha)).append ?_
    cases sc
    · exact textOk_iff.mp (by decide)
    · exact textOk_iff.mp (by decide)
  | etag qn =>
    simp only [tokOk] at h
    simp only [renderTok]
    exact ((textOk_iff.mp (by decide)).append (docAll_name h)).append (textOk_iff.mp (by decide))
  | chars s =>
    simp only [tokOk] at h
    exact docAll_escapeText h
  | comment s =>
    simp only [tokOk, Bool.and_eq_true] at h
    simp only [renderTok, comment_open_lit, comment_close_lit]
    exact ((textOk_iff.mp (by decide)).append (textOk_iff.mp h.1)).append (textOk_iff.mp (by decide))
  | pi t s =>
    simp only [tokOk, Bool.and_eq_true] at h
    obtain ⟨⟨⟨⟨ht, _⟩, hs⟩, _⟩, _⟩ := h
    simp only [renderTok, pi_open_lit, pi_close_lit]
    exact ((((textOk_iff.mp (by decide)).append (docAll_name ht)).append (textOk_iff.mp (by decide))).append
      (textOk_iff.mp hs)).append (textOk_iff.mp (by decide))

theorem docAll_render (ts : List Tok) (h : ts.all tokOk = true) : DocAll (render ts) := by
  induction ts with
  | nil => exact nofun
  | cons t ts ih =>
    simp only [List.all_cons, Bool.and_eq_true] at h
    rw [render_cons]
    exact DocAll.append (docAll_renderTok t h.1) (ih h.2)

/-! ## the scanner on rendered tokens -/

theorem scan_render (ts : List Tok) (h : ToksOk ts) : scan (render ts) = some (mergeChars ts) := by
  have hd := docAll_render ts h
  have hx : (render ts).all xmlChar = true :=
    List.all_eq_true.mpr (fun c hc => docChar_xmlChar (hd c hc))
  have hcr : '\r' ∉ render ts := fun hm => docChar_ne_cr (hd _ hm) rfl
  unfold scan
  rw [if_pos hx, normEol_id _ hcr]
  have := scanToks_render (mergeChars ts) ((render ts).length + 1) (merged_mergeChars ts)
    (tokOk_mergeChars ts h) (by rw [render_mergeChars]; omega)
  rwa [render_mergeChars] at this

end Delb.Ser
