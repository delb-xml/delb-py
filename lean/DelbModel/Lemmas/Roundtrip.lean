import DelbModel.Lemmas.Escape
import DelbModel.Lemmas.Declarations
import DelbModel.Lemmas.Serializable
/-!
# The round trip on tokens: `build` reads back what `emitRoot` writes (C02; C03 builds on it)

All declarations are written on the root, so every element is read in one scope, `rootScope m`, in which a written
name resolves to the namespace its prefix stands for.  The builder's left-to-right merge of text is `mergeKids`
(`pushAll_reverse`).  `buildAux_element` is the step for one element on any stack, given that the tokens of its
children are rebuilt into the children.
-/
namespace Delb.Ser

/-! ## emitting never fails when every namespace has a prefix -/

theorem pfx_total {m : Dict} {ns : String} (h : (dget m ns).isSome) : ∃ p, pfx m ns = .ok p := by
  unfold pfx; cases hd : dget m ns with
  | none => simp [hd] at h
  | some p => exact ⟨p, rfl⟩

theorem insertSorted_cases (a b : Attr) (l : List Attr) :
    insertSorted a (b :: l) = a :: b :: l ∨ insertSorted a (b :: l) = b :: insertSorted a l := by
  rw [insertSorted]; split <;> simp

theorem sortAttrs_perm (l : List Attr) : (sortAttrs l).Perm l :=
  foldr_insert_perm insertSorted (fun _ => rfl) insertSorted_cases l

theorem mem_sortAttrs {a : Attr} {l : List Attr} : a ∈ sortAttrs l ↔ a ∈ l :=
  (sortAttrs_perm l).mem_iff

theorem attrsData_total {m : Dict} : ∀ (as : List Attr), (∀ a ∈ as, (dget m a.ns).isSome) →
    ∃ ad, attrsData m as = .ok ad
  | [], _ => ⟨[], rfl⟩
  | a :: as, h => by
    obtain ⟨ha, has⟩ := List.forall_mem_cons.mp h
    obtain ⟨p, hp⟩ := pfx_total ha
    obtain ⟨ad, had⟩ := attrsData_total as has
    exact ⟨((p ++ a.name).toList, a.value) :: ad, by simp only [attrsData, hp, had]⟩

mutual
theorem emitNode_total {m : Dict} : ∀ (t : Node), (∀ ns ∈ treeNamespaces t, (dget m ns).isSome) →
    ∃ toks, emitNode m t = .ok toks
  | .tag ns name attrs kids, h => by
    simp only [treeNamespaces, List.mem_cons, List.mem_append, List.mem_map] at h
    obtain ⟨p, hp⟩ := pfx_total (h ns (Or.inl (Or.inl rfl)))
    obtain ⟨ad, had⟩ := attrsData_total (m := m) (sortAttrs attrs)
      (fun a ha => h a.ns (Or.inl (Or.inr ⟨a, mem_sortAttrs.mp ha, rfl⟩)))
    obtain ⟨ks, hks⟩ := emitKids_total kids (fun x hx => h x (Or.inr hx))
    rw [emitNode.eq_1]
    simp only [hp, had, hks]
    split <;> exact ⟨_, rfl⟩
  | .text s, _ => by rw [emitNode.eq_2]; split <;> exact ⟨_, rfl⟩
  | .comment s, _ => ⟨_, rfl⟩
  | .pi t s, _ => ⟨_, rfl⟩
theorem emitKids_total {m : Dict} : ∀ (ks : List Node), (∀ ns ∈ kidsNamespaces ks, (dget m ns).isSome) →
    ∃ toks, emitKids m ks = .ok toks
  | [], _ => ⟨[], rfl⟩
  | k :: ks, h => by
    simp only [kidsNamespaces, List.mem_append] at h
    obtain ⟨a, ha⟩ := emitNode_total k (fun x hx => h x (Or.inl hx))
    obtain ⟨b, hb⟩ := emitKids_total ks (fun x hx => h x (Or.inr hx))
    exact ⟨a ++ b, by rw [emitKids.eq_2]; simp only [ha, hb]⟩
end

theorem emitRoot_total {m : Dict} (t : Node) (h : ∀ ns ∈ treeNamespaces t, (dget m ns).isSome) :
    ∃ toks, emitRoot m t = .ok toks := by
  obtain ⟨toks, ht⟩ := emitNode_total t h
  cases t with
  | tag ns name attrs kids =>
    simp only [emitRoot, ht]
    split
    · simp_all
    · exact ⟨_, rfl⟩
    · exact ⟨_, rfl⟩
  | _ => exact ⟨toks, ht⟩

/-! ## splitting a written name at its colon -/

theorem splitQName_noColon (l : Str) (h : ':' ∉ l) : splitQName l = (none, l) := by
  have := span_loop_append (· != ':') [] nofun l [] (fun x hx => bne_iff_ne.mpr (ne_of_mem_of_not_mem hx h))
  rw [List.append_nil] at this
  unfold splitQName List.span
  rw [this]
  rfl

theorem splitQName_colon (q l : Str) (h : ':' ∉ q) : splitQName (q ++ ':' :: l) = (some q, l) := by
  unfold splitQName List.span
  rw [span_loop_append _ (':' :: l) (by simp) q [] (fun x hx => bne_iff_ne.mpr (ne_of_mem_of_not_mem hx h))]
  rfl

theorem chopColon_append (q : String) : chopColon (q ++ ":") = q := by
  unfold chopColon
  have : (q ++ ":").toList = q.toList ++ [':'] := by rw [String.toList_append]; rfl
  rw [this, List.dropLast_concat, String.ofList_toList]

/-! ## the scope a start tag opens -/

/-- the declaration an attribute token makes, if any -/
def attrDeclOf (kv : Str × Str) : Option (String × String) :=
  if kv.1 == "xmlns".toList then some ("", String.ofList kv.2)
  else match splitQName kv.1 with
    | (some p, l) => if p == "xmlns".toList then some (String.ofList l, String.ofList kv.2) else none
    | _ => none

theorem scopeOf_cons (kv : Str × Str) (attrs : List (Str × Str)) (outer : Scope) :
    scopeOf (kv :: attrs) outer =
      scopeOf attrs (match attrDeclOf kv with | some e => e :: outer | none => outer) := by
  show scopeOf attrs _ = _
  congr 1
  unfold attrDeclOf
  dsimp only
  cases kv.1 == "xmlns".toList
  · rcases splitQName kv.1 with ⟨_ | p, l⟩
    · rfl
    · dsimp only
      cases p == "xmlns".toList <;> rfl
  · rfl

theorem scopeOf_eq : ∀ (attrs : List (Str × Str)) (outer : Scope),
    scopeOf attrs outer = (attrs.filterMap attrDeclOf).reverse ++ outer
  | [], outer => rfl
  | kv :: attrs, outer => by
    rw [scopeOf_cons, scopeOf_eq attrs, List.filterMap_cons]
    cases attrDeclOf kv <;> simp

theorem attrDeclOf_isSome (k v : Str) : (attrDeclOf (k, v)).isSome = isDecl k := by
  unfold attrDeclOf isDecl
  dsimp only
  rcases splitQName k with ⟨_ | p, l⟩ <;> cases k == "xmlns".toList
  · rfl
  · rfl
  · show Option.isSome (if (p == "xmlns".toList) = true then _ else _) = (some p == some "xmlns".toList)
    rw [Option.some_beq_some]
    cases p == "xmlns".toList <;> rfl
  · rfl

theorem scopeOf_noDecl (attrs : List (Str × Str)) (outer : Scope)
    (h : ∀ kv ∈ attrs, isDecl kv.1 = false) : scopeOf attrs outer = outer := by
  have : attrs.filterMap attrDeclOf = [] := List.filterMap_eq_nil_iff.mpr fun kv hkv => by
    have hs := attrDeclOf_isSome kv.1 kv.2
    rw [h kv hkv] at hs
    exact Option.isSome_eq_false_iff.mp hs |> Option.isNone_iff_eq_none.mp
  rw [scopeOf_eq, this]
  rfl

theorem scopeOf_append (a b : List (Str × Str)) (outer : Scope) :
    scopeOf (a ++ b) outer = scopeOf b (scopeOf a outer) := by
  unfold scopeOf; rw [List.foldl_append]

theorem readAttrs_decls (sc : Scope) : ∀ (a b : List (Str × Str)), (∀ kv ∈ a, isDecl kv.1 = true) →
    readAttrs sc (a ++ b) = readAttrs sc b
  | [], b, _ => rfl
  | (k, v) :: a, b, h => by
    obtain ⟨hk, ha⟩ := List.forall_mem_cons.mp h
    simp only [List.cons_append, readAttrs, show isDecl k = true from hk, if_true]
    exact readAttrs_decls sc a b ha

/-! ## the declarations written on the root and the scope they give -/

/-- what the round trip needs of the prefix map: the fields of `PMapOk` that mention neither the caller's mapping
    nor the tree -/
structure MapCtx (m : Dict) : Prop where
  injective : ∀ ns₁ ns₂ p, dget m ns₁ = some p → dget m ns₂ = some p → ns₁ = ns₂
  shape : ∀ ns p, dget m ns = some p → PrefixShape p
  keysNodup : (dkeys m).Nodup
  xml : ∀ ns, dget m ns = some "xml:" → ns = Gen.xmlNamespace
  xmlns : ∀ ns, dget m ns = some "xmlns:" → ns = Gen.xmlnsNamespace

theorem PMapOk.ctx {nsmap m : Dict} {t : Node} (hm : PMapOk nsmap m t) : MapCtx m :=
  ⟨hm.injective, hm.shape, hm.keysNodup, hm.xmlPrefix, hm.xmlnsPrefix⟩

theorem MapCtx.values_nodup {m : Dict} (hc : MapCtx m) : (m.map (·.2)).Nodup := by
  have hm : m.Nodup := nodup_of_map (fun e : String × String => e.1) (by have := hc.keysNodup; unfold dkeys at this; exact this)
  refine nodup_map_of_injOn ?_ hm
  intro x hx y hy e
  obtain ⟨k1, v1⟩ := x
  obtain ⟨k2, v2⟩ := y
  simp only at e
  subst e
  have := hc.injective k1 k2 v1 (dget_of_mem hc.keysNodup hx) (dget_of_mem hc.keysNodup hy)
  rw [this]

/-- the scope every element of a serialized document is read in -/
def rootScope (m : Dict) : Scope := scopeOf (declarations m) []

theorem attrDeclOf_default (ns : String) : attrDeclOf ("xmlns".toList, ns.toList) = some ("", ns) := by
  unfold attrDeclOf
  dsimp only
  rw [beq_self_eq_true, if_pos rfl, String.ofList_toList]

theorem attrDeclOf_prefixed (q ns : String) :
    attrDeclOf (("xmlns:" ++ q).toList, ns.toList) = some (q, ns) := by
  have h1 : (("xmlns:" ++ q).toList == "xmlns".toList) = false := beq_eq_false_iff_ne.mpr (xmlns_prefix_ne q)
  unfold attrDeclOf
  rw [if_neg (by rw [h1]; exact Bool.false_ne_true), xmlnsq_toList, splitQName_colon _ _ no_colon_lit.2.1]
  dsimp only
  rw [beq_self_eq_true, if_pos rfl, String.ofList_toList, String.ofList_toList]

theorem mem_rootScope {m : Dict} {e : String × String} :
    e ∈ rootScope m ↔ ∃ kv ∈ declarations m, attrDeclOf kv = some e := by
  unfold rootScope
  rw [scopeOf_eq]
  simp only [List.append_nil, List.mem_reverse, List.mem_filterMap]

theorem rootScope_sound {m : Dict} (hc : MapCtx m) {q ns : String} (h : (q, ns) ∈ rootScope m) :
    dget m ns = some (if q = "" then "" else q ++ ":") := by
  obtain ⟨kv, hkv, hd⟩ := mem_rootScope.mp h
  rcases mem_declarations hkv with ⟨ns', _, hmem, rfl⟩ | ⟨ns', p, hmem, hp, _, rfl⟩
  · rw [attrDeclOf_default] at hd
    cases hd
    exact dget_of_mem hc.keysNodup hmem
  · have hdg := dget_of_mem hc.keysNodup hmem
    rcases hc.shape _ _ hdg with rfl | ⟨q', rfl, hq', _⟩
    · exact absurd rfl hp
    rw [chopColon_append, attrDeclOf_prefixed] at hd
    cases hd
    rw [if_neg hq']
    exact hdg

theorem rootScope_complete {m : Dict} (hc : MapCtx m) {q ns : String}
    (h : dget m ns = some (if q = "" then "" else q ++ ":")) (hx : q ≠ "xml")
    (hns : ns ≠ Gen.xmlnsNamespace) : (q, ns) ∈ rootScope m ∨ q = "" ∧ ns = "" := by
  by_cases hq : q = ""
  · rw [if_pos hq] at h
    subst hq
    by_cases hne : ns = ""
    · exact Or.inr ⟨rfl, hne⟩
    · exact Or.inl (mem_rootScope.mpr
        ⟨_, declarations_default hc.keysNodup hc.injective h hne, attrDeclOf_default ns⟩)
  · rw [if_neg hq] at h
    have hxs : q ≠ "xmlns" := by rintro rfl; exact hns (hc.xmlns ns h)
    have := declarations_prefixed hc.keysNodup hc.injective h (str_append_ne_empty q)
      (by simp [chopColon_append, Gen.globalPrefixes, hx, hxs])
    rw [chopColon_append] at this
    exact Or.inl (mem_rootScope.mpr ⟨_, this, attrDeclOf_prefixed q ns⟩)

/-! ## resolving written names -/

/-- `h`: `q` is the prefix of `ns`, in the form the map stores prefixes -/
theorem resolve_rootScope {m : Dict} (hc : MapCtx m) {q ns : String}
    (h : dget m ns = some (if q = "" then "" else q ++ ":")) (hns : ns ≠ Gen.xmlnsNamespace) :
    resolve (rootScope m) q = some ns := by
  by_cases hx : q = "xml"
  · subst hx
    rw [if_neg (by decide)] at h
    rw [hc.xml ns h]
    rfl
  unfold resolve
  rw [if_neg (by simpa using hx)]
  cases hf : (rootScope m).find? (fun e => e.1 == q) with
  | none =>
    rcases rootScope_complete hc h hx hns with hmem | ⟨rfl, rfl⟩
    · exact absurd (List.find?_eq_none.mp hf _ hmem) (by simp)
    · rfl
  | some e =>
    obtain ⟨q', ns'⟩ := e
    obtain rfl : q' = q := by simpa using List.find?_some hf
    rw [hc.injective _ _ _ (rootScope_sound hc (List.mem_of_find?_eq_some hf)) h]

theorem qname_read {m : Dict} (hc : MapCtx m) {ns p name : String}
    (h : dget m ns = some p) (hns : ns ≠ Gen.xmlnsNamespace) (hname : ':' ∉ name.toList) :
    ∃ pq, splitQName (p ++ name).toList = (pq, name.toList) ∧
      resolve (rootScope m) (String.ofList (pq.getD [])) = some ns ∧
      (name ≠ "xmlns" → isDecl (p ++ name).toList = false) := by
  rcases hc.shape _ _ h with rfl | ⟨q, rfl, hq, hqc⟩
  · have hs := splitQName_noColon _ hname
    rw [String.empty_append]
    refine ⟨none, hs, ?_, fun hx => ?_⟩
    · show resolve (rootScope m) (String.ofList []) = some ns
      rw [ofList_nil]
      exact resolve_rootScope hc (by rw [if_pos rfl]; exact h) hns
    · unfold isDecl
      rw [hs, Bool.or_eq_false_iff]
      exact ⟨beq_eq_false_iff_ne.mpr fun e => hx (String.toList_inj.mp e), rfl⟩
  · have hk : (q ++ ":" ++ name).toList = q.toList ++ ':' :: name.toList := by
      rw [String.toList_append, String.toList_append, colon_lit, List.append_assoc]
      rfl
    have hs := splitQName_colon _ name.toList hqc
    have hqx : q ≠ "xmlns" := by rintro rfl; exact hns (hc.xmlns ns h)
    rw [hk]
    refine ⟨some q.toList, hs, ?_, fun _ => ?_⟩
    · show resolve (rootScope m) (String.ofList q.toList) = some ns
      rw [String.ofList_toList]
      exact resolve_rootScope hc (by rw [if_neg hq]; exact h) hns
    · unfold isDecl
      rw [hs, Bool.or_eq_false_iff]
      exact ⟨beq_eq_false_iff_ne.mpr fun e => no_colon_lit.2.1 (e ▸ List.mem_append_right _ (List.mem_cons_self ..)),
        beq_eq_false_iff_ne.mpr fun e => hqx (String.toList_inj.mp (Option.some.inj e))⟩

/-! ## written attributes are read back -/

theorem attrsData_cons_inv {m : Dict} {a : Attr} {as : List Attr} {ad : List (Str × Str)}
    (h : attrsData m (a :: as) = .ok ad) :
    ∃ p rest, pfx m a.ns = .ok p ∧ attrsData m as = .ok rest ∧
      ad = ((p ++ a.name).toList, a.value) :: rest := by
  rw [attrsData] at h
  split at h
  · rename_i p rest hp hrest
    exact ⟨p, rest, hp, hrest, by cases h; rfl⟩
  all_goals cases h

theorem readAttrs_attrsData {m : Dict} (hc : MapCtx m) : ∀ (as : List Attr) (ad : List (Str × Str)),
    attrsData m as = .ok ad → (∀ a ∈ as, AttrOk a) →
    readAttrs (rootScope m) ad = some as ∧ ∀ kv ∈ ad, isDecl kv.1 = false
  | [], ad, h, _ => by
    cases h; exact ⟨rfl, by simp⟩
  | a :: as, ad, h, hok => by
    obtain ⟨p, rest, hp, hrest, had⟩ := attrsData_cons_inv h
    subst had
    obtain ⟨⟨hcol, hns, hx⟩, hok'⟩ := List.forall_mem_cons.mp hok
    obtain ⟨ih1, ih2⟩ := readAttrs_attrsData hc as rest hrest hok'
    obtain ⟨pq, hs, hr, hdecl⟩ := qname_read (name := a.name) hc (pfx_ok_iff.mp hp) hns hcol
    have hdecl := hdecl hx
    constructor
    · rw [readAttrs]
      simp only [hdecl, Bool.false_eq_true, if_false, hs, hr, ih1, String.ofList_toList]
    · exact List.forall_mem_cons.mpr ⟨hdecl, ih2⟩

/-! ## text merging -/

/-- what the builder does with a finished child -/
def pushNode (n : Node) (acc : List Node) : List Node :=
  match n with
  | .text s => pushText s acc
  | n => n :: acc

def pushAll (acc : List Node) (ns : List Node) : List Node :=
  ns.foldl (fun acc n => pushNode n acc) acc

/-- glue the builder's (reversed) children so far to an already merged remainder -/
def attach : List Node → List Node → List Node
  | .text t :: r, .text s :: l => r.reverse ++ .text (t ++ s) :: l
  | acc, l => acc.reverse ++ l

theorem attach_nil_left (l : List Node) : attach [] l = l := by
  unfold attach; simp

theorem mergeKids_text_nil (ns : List Node) : mergeKids (.text [] :: ns) = mergeKids ns := by
  rw [mergeKids]
  split
  · rename_i t r h; rw [h]; rfl
  · simp

theorem pushText_nil (acc : List Node) : pushText [] acc = acc := by
  unfold pushText
  split
  · simp
  · simp

theorem mergeKids_text_cons (s : Str) (ns : List Node) :
    mergeKids (.text s :: ns) =
      match mergeKids ns with
      | .text t :: rest' => .text (s ++ t) :: rest'
      | rest' => if s = [] then rest' else .text s :: rest' := by
  rw [mergeKids]; rfl

theorem attach_pushNode (n : Node) (acc ns : List Node) :
    attach (pushNode n acc) (mergeKids ns) = attach acc (mergeKids (n :: ns)) := by
  cases n with
  | text s =>
    by_cases hs : s = []
    · rw [hs, pushNode, pushText_nil, mergeKids_text_nil]
    have hse : ¬ s.isEmpty = true := by simpa using hs
    rw [pushNode, mergeKids_text_cons]
    generalize mergeKids ns = M
    -- does the remainder start with text? do the children so far end with text?
    split
    · unfold pushText
      split
      · rw [attach.eq_1, attach.eq_1, List.append_assoc]
      · next hacc =>
        rw [if_neg hse, attach.eq_1, attach.eq_2 _ _ (fun _ _ _ _ e _ => hacc _ _ e)]
    · next hM =>
      unfold pushText
      split
      · rw [if_neg hs, attach.eq_1, attach.eq_2 _ M (fun _ _ _ _ _ e => hM _ _ e), List.reverse_cons,
          List.append_assoc, List.singleton_append]
      · next hacc =>
        rw [if_neg hse, if_neg hs, attach.eq_2 _ M (fun _ _ _ _ _ e => hM _ _ e),
          attach.eq_2 acc _ (fun _ _ _ _ e _ => hacc _ _ e), List.reverse_cons, List.append_assoc,
          List.singleton_append]
  | _ =>
    rw [mergeKids.eq_3, pushNode, attach.eq_2 _ _ (by intro _ _ _ _ e; cases e),
      attach.eq_2 _ _ (by intro _ _ _ _ _ e; cases e), List.reverse_cons, List.append_assoc,
      List.singleton_append]
    all_goals exact nofun

theorem pushAll_reverse : ∀ (ns acc : List Node), (pushAll acc ns).reverse = attach acc (mergeKids ns)
  | [], acc => by rw [mergeKids, attach.eq_2 _ _ (by intro _ _ _ _ _ e; cases e), List.append_nil]; rfl
  | n :: ns, acc => (pushAll_reverse ns _).trans (attach_pushNode n acc ns)

/-! ## single steps of the builder -/

/-- the scope the element on top of the stack was read in -/
def topScope : List Frame → Scope
  | f :: _ => f.scope
  | [] => []

/-- a finished element becomes a child of the open element below it, or the result -/
def finish (n : Node) (ts : List Tok) : List Frame → Option Node → Option Node
  | [], _ => buildAux ts [] (some n)
  | f :: fs, done => buildAux ts ({ f with kids := n :: f.kids } :: fs) done

theorem buildAux_stag_eq (qn : Str) (attrs : List (Str × Str)) (sc : Bool) (ts : List Tok)
    (st : List Frame) (done : Option Node) :
    buildAux (.stag qn attrs sc :: ts) st done =
      if done.isSome then none else
      match resolve (scopeOf attrs (topScope st)) (String.ofList ((splitQName qn).1.getD [])),
        readAttrs (scopeOf attrs (topScope st)) attrs with
      | some ns, some as =>
        if sc then finish (.tag ns (String.ofList (splitQName qn).2) as []) ts st done
        else buildAux ts (⟨qn, ns, String.ofList (splitQName qn).2, as, scopeOf attrs (topScope st), []⟩ :: st) done
      | _, _ => none := by
  cases st <;> rfl

theorem buildAux_etag_eq (qn : Str) (ts : List Tok) (f : Frame) (fs : List Frame) (done : Option Node) :
    buildAux (.etag qn :: ts) (f :: fs) done =
      if f.qname != qn then none else finish (.tag f.ns f.name f.attrs f.kids.reverse) ts fs done := by
  cases fs <;> rfl

theorem buildAux_stag {qn : Str} {attrs : List (Str × Str)} {sc : Bool} {ts : List Tok} {st : List Frame}
    {S : Scope} {pq : Option Str} {l : Str} {ns : String} {as : List Attr}
    (hscope : scopeOf attrs (topScope st) = S)
    (hs : splitQName qn = (pq, l)) (hr : resolve S (String.ofList (pq.getD [])) = some ns)
    (ha : readAttrs S attrs = some as) :
    buildAux (.stag qn attrs sc :: ts) st none =
      if sc then finish (.tag ns (String.ofList l) as []) ts st none
      else buildAux ts (⟨qn, ns, String.ofList l, as, S, []⟩ :: st) none := by
  rw [buildAux_stag_eq, hscope, hs, hr, ha]
  rfl

theorem buildAux_chars (s : Str) (ts : List Tok) (f : Frame) (fs : List Frame) (done : Option Node) :
    buildAux (.chars s :: ts) (f :: fs) done =
      buildAux ts ({ f with kids := pushText s f.kids } :: fs) done :=
  rfl

theorem buildAux_comment (s : Str) (ts : List Tok) (f : Frame) (fs : List Frame) (done : Option Node) :
    buildAux (.comment s :: ts) (f :: fs) done =
      buildAux ts ({ f with kids := .comment s :: f.kids } :: fs) done :=
  rfl

theorem buildAux_pi (t : String) (s : Str) (ts : List Tok) (f : Frame) (fs : List Frame) (done : Option Node) :
    buildAux (.pi t s :: ts) (f :: fs) done =
      buildAux ts ({ f with kids := .pi t s :: f.kids } :: fs) done :=
  rfl

/-! ## the round trip -/

theorem emitKids_cons_inv {m : Dict} {k : Node} {ks : List Node} {toks : List Tok}
    (h : emitKids m (k :: ks) = .ok toks) :
    ∃ a b, emitNode m k = .ok a ∧ emitKids m ks = .ok b ∧ toks = a ++ b := by
  rw [emitKids.eq_2] at h
  split at h
  · rename_i a b ha hb
    exact ⟨a, b, ha, hb, by cases h; rfl⟩
  all_goals cases h

theorem stag_read {m : Dict} (hc : MapCtx m) {ns name p : String} {attrs : List Attr}
    {ad : List (Str × Str)} (hp : pfx m ns = .ok p) (had : attrsData m (sortAttrs attrs) = .ok ad)
    (hname : ':' ∉ name.toList) (hns : ns ≠ Gen.xmlnsNamespace) (hattrs : ∀ a ∈ attrs, AttrOk a) :
    ∃ pq, splitQName (p ++ name).toList = (pq, name.toList) ∧
      resolve (rootScope m) (String.ofList (pq.getD [])) = some ns ∧
      readAttrs (rootScope m) ad = some (sortAttrs attrs) ∧ ∀ kv ∈ ad, isDecl kv.1 = false := by
  obtain ⟨pq, hs, hr, _⟩ := qname_read (name := name) hc (pfx_ok_iff.mp hp) hns hname
  obtain ⟨ha, hnd⟩ := readAttrs_attrsData hc _ _ had (fun a h => hattrs a (mem_sortAttrs.mp h))
  exact ⟨pq, hs, hr, ha, hnd⟩

theorem buildAux_element {m : Dict} (hc : MapCtx m) {ns name p : String} {attrs : List Attr}
    {ad : List (Str × Str)} {kids : List Node} {ks : List Tok} (hp : pfx m ns = .ok p)
    (had : attrsData m (sortAttrs attrs) = .ok ad) (hname : ':' ∉ name.toList)
    (hns : ns ≠ Gen.xmlnsNamespace) (hattrs : ∀ a ∈ attrs, AttrOk a)
    (hks : ∀ (rest : List Tok) (f : Frame) (fs : List Frame), f.scope = rootScope m →
      buildAux (ks ++ rest) (f :: fs) none =
        buildAux rest ({ f with kids := pushAll f.kids (normalizeList kids) } :: fs) none)
    {D : List (Str × Str)} (hD : ∀ kv ∈ D, isDecl kv.1 = true) {st : List Frame}
    (hst : scopeOf D (topScope st) = rootScope m) (rest : List Tok) :
    buildAux ((if kids.isEmpty then [Tok.stag (p ++ name).toList (D ++ ad) true]
        else .stag (p ++ name).toList (D ++ ad) false :: ks ++ [.etag (p ++ name).toList]) ++ rest) st none =
      finish (normalize (.tag ns name attrs kids)) rest st none := by
  obtain ⟨pq, hs, hr, ha, hnd⟩ := stag_read hc hp had hname hns hattrs
  have hscope : scopeOf (D ++ ad) (topScope st) = rootScope m := by
    rw [scopeOf_append, hst, scopeOf_noDecl _ _ hnd]
  have ha' : readAttrs (rootScope m) (D ++ ad) = some (sortAttrs attrs) := by
    rw [readAttrs_decls _ _ _ hD, ha]
  cases kids with
  | nil =>
    simp only [List.isEmpty_nil, if_true, List.cons_append, List.nil_append]
    rw [buildAux_stag hscope hs hr ha']
    simp only [if_true, String.ofList_toList, normalize, normalizeList, mergeKids]
  | cons k0 ks0 =>
    simp only [List.isEmpty_cons, Bool.false_eq_true, if_false, List.cons_append, List.append_assoc,
      List.nil_append]
    rw [buildAux_stag hscope hs hr ha']
    simp only [Bool.false_eq_true, if_false]
    rw [hks _ _ _ rfl, buildAux_etag_eq, bne_self_eq_false]
    simp only [Bool.false_eq_true, if_false, String.ofList_toList, normalize, pushAll_reverse, attach_nil_left]

mutual
theorem emitNode_build {m : Dict} (hc : MapCtx m) :
    ∀ (k : Node) (toks : List Tok), emitNode m k = .ok toks → Serializable k →
    ∀ (rest : List Tok) (f : Frame) (fs : List Frame), f.scope = rootScope m →
    buildAux (toks ++ rest) (f :: fs) none =
      buildAux rest ({ f with kids := pushNode (normalize k) f.kids } :: fs) none
  | .tag ns name attrs kids, toks, h, hk, rest, f, fs, hf => by
    obtain ⟨p, ad, ks, hp, had, hks, rfl⟩ := emitNode_tag_inv h
    obtain ⟨hname, hns, hattrs, -, hkids⟩ := hk.tag
    exact buildAux_element hc hp had hname hns hattrs (emitKids_build hc kids ks hks hkids)
      (D := []) nofun (st := f :: fs) (by exact hf) rest
  | .text s, toks, h, _, rest, f, fs, _ => by
    rw [emitNode.eq_2] at h
    cases s with
    | nil =>
      cases h
      simp only [List.nil_append, normalize, pushNode, pushText_nil]
    | cons c s =>
      cases h
      simp only [List.cons_append, List.nil_append, normalize, pushNode, buildAux_chars]
  | .comment s, toks, h, _, rest, f, fs, _ => by
    rw [emitNode.eq_3] at h
    cases h
    simp only [List.cons_append, List.nil_append, normalize, pushNode, buildAux_comment]
  | .pi t s, toks, h, _, rest, f, fs, _ => by
    rw [emitNode.eq_4] at h
    cases h
    simp only [List.cons_append, List.nil_append, normalize, pushNode, buildAux_pi]
theorem emitKids_build {m : Dict} (hc : MapCtx m) :
    ∀ (ks : List Node) (toks : List Tok), emitKids m ks = .ok toks → SerializableList ks →
    ∀ (rest : List Tok) (f : Frame) (fs : List Frame), f.scope = rootScope m →
    buildAux (toks ++ rest) (f :: fs) none =
      buildAux rest ({ f with kids := pushAll f.kids (normalizeList ks) } :: fs) none
  | [], toks, h, _, rest, f, fs, _ => by
    rw [emitKids.eq_1] at h
    cases h
    simp only [List.nil_append, normalizeList, pushAll, List.foldl_nil]
  | k :: ks, toks, h, hk, rest, f, fs, hf => by
    obtain ⟨a, b, ha, hb, htoks⟩ := emitKids_cons_inv h
    obtain ⟨hk1, hk2⟩ := hk.cons
    subst htoks
    rw [List.append_assoc, emitNode_build hc k a ha hk1 _ _ _ hf,
      emitKids_build hc ks b hb hk2 _ _ _ (by exact hf)]
    simp only [normalizeList, pushAll, List.foldl_cons]
end

theorem isDecl_declarations (m : Dict) : ∀ kv ∈ declarations m, isDecl kv.1 = true := by
  intro kv hkv
  rw [← attrDeclOf_isSome kv.1 kv.2]
  rcases mem_declarations hkv with ⟨_, _, _, rfl⟩ | ⟨_, _, _, _, _, rfl⟩
  · rw [attrDeclOf_default]; rfl
  · rw [attrDeclOf_prefixed]; rfl

theorem build_emitRoot {m : Dict} (hc : MapCtx m) (t : Node) (htag : t.isTag = true)
    (ht : Serializable t) (toks : List Tok)
    (h : emitRoot m t = .ok toks) : build toks = some (normalize t) := by
  cases t with
  | tag ns name attrs kids =>
    obtain ⟨p, ad, ks, hp, had, hks, rfl⟩ := emitRoot_tag_inv h
    obtain ⟨hname, hns, hattrs, -, hkids⟩ := ht.tag
    have := buildAux_element hc hp had hname hns hattrs (emitKids_build hc kids ks hks hkids)
      (isDecl_declarations m) (st := []) rfl []
    rwa [List.append_nil] at this
  | _ => cases htag

end Delb.Ser
