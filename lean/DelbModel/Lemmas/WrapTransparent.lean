import DelbModel.Model.Wrapping
import DelbModel.Lemmas.PrettyTransparent
import DelbModel.Lemmas.WrapTransparent.Hoare
import DelbModel.Lemmas.WrapTransparent.Machine
import DelbModel.Lemmas.WrapTransparent.Layout
import DelbModel.Lemmas.WrapTransparent.Gap
import DelbModel.Lemmas.WrapTransparent.LayRel
import DelbModel.Lemmas.WrapTransparent.Pieces
import DelbModel.Lemmas.WrapTransparent.Paths
import DelbModel.Lemmas.WrapTransparent.Plain
import DelbModel.Lemmas.WrapTransparent.Skeleton
import DelbModel.Lemmas.WrapTransparent.MachineSpec
import DelbModel.Lemmas.WrapTransparent.Text
import DelbModel.Lemmas.WrapTransparent.Main
/-!
# Helper lemmas for Props/C03Wrap.lean

* `Hoare.lean`       — `Post x Q`: a partial-correctness calculus for `Except Err`
* `Machine.lean`     — the serializer's methods with their join points named
* `Layout.lean`      — what `write` appends; `LW`: layout pieces that are whitespace
* `Gap.lean`         — `GapOK t w first last`: the character data `w` written in place of the text `t`
                       reduces to `t`; `collapse` and appending
* `LayRel.lean`      — structural half: `Lay t u` (laid-out trees) and `wlay_reduce`
* `Pieces.lean`      — what `write` appends (gap pieces / markup pieces), offsets; `WsStep`: one write of whitespace
* `Paths.lean`       — navigation by paths in terms of the parent's child list
* `Plain.lean`       — sub-trees written by the space-preserving and the line-fitting serializer; `Markup`, `TagOut`
* `Skeleton.lean`    — the gaps of a child list, `KidsOut`, the serializer's state between two nodes; `TextSpec`
* `MachineSpec.lean` — machine half: every method writes the plain emission of a laid-out tree
                       (`machine_spec`, `wrapRoot_lay`), given `TextSpec`
* `Text.lean`        — `_serialize_text` (`textSpec`), incl. `_wrap_text` on escaped text and the
                       swallowed trailing space (needs an indentation without newline)
* `Main.lean`        — `wrapped_transparent`
-/
