import DelbModel.Model.GuardOrder
/-!
# A path that keeps `shapeOk` has changed nothing before any of its guards
-/
namespace Delb.GuardOrder
open Delb.Gen

theorem shapeOk_rejected (allowed : List String) :
    ∀ (p : List GuardEv) (i : Nat) (g : String), shapeOk allowed p = true → p[i]? = some (.guard g) →
      changedBefore p i = []
  | [], i, g, _, hi => by simp at hi
  | e :: rest, 0, g, _, _ => by simp [changedBefore]
  | e :: rest, i + 1, g, h, hi => by
    simp only [List.getElem?_cons_succ] at hi
    simp only [shapeOk] at h
    by_cases hc : changes e = true
    · -- something changed at the head: no guard can follow
      simp only [hc, if_true, List.all_eq_true] at h
      have hmem : GuardEv.guard g ∈ rest := List.mem_of_getElem? hi
      have := h _ hmem
      simp [laterOk] at this
    · simp only [hc] at h
      have ih := shapeOk_rejected allowed rest i g (by simpa using h) hi
      simp only [changedBefore, List.take_succ_cons, List.filter_cons, hc] at ih ⊢
      simpa using ih

end Delb.GuardOrder
