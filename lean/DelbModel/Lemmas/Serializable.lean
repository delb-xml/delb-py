import DelbModel.Model.Serialize
/-!
# Trees the serializer can write

The hypothesis `Serializable` of the round-trip theorems (C02, C03, C17).
-/
namespace Delb.Ser

/-- conditions on an attribute under which it is written and read back unchanged -/
def AttrOk (a : Attr) : Prop :=
  ':' ∉ a.name.toList ∧ a.ns ≠ Gen.xmlnsNamespace ∧ a.name ≠ "xmlns"

mutual
  /-- names the serializer can write: local names and attribute names are colon-free and
      no node or attribute lives in the `xmlns` namespace; no attribute has the local name
      `xmlns`, in whatever namespace (an attribute whose namespace is the document's default
      namespace is written without a prefix like one in the empty namespace, so
      `⟨"urn:a", "xmlns", v⟩` under the map `[("urn:a", "")]` is written as `xmlns="v"` and read
      back as a namespace declaration); attribute keys are unique -/
  def Serializable : Node → Prop
    | .tag ns name attrs kids =>
      ':' ∉ name.toList ∧ ns ≠ Gen.xmlnsNamespace ∧
      (∀ a ∈ attrs, ':' ∉ a.name.toList ∧ a.ns ≠ Gen.xmlnsNamespace ∧ a.name ≠ "xmlns") ∧
      (attrs.map (fun a => (a.ns, a.name))).Nodup ∧ SerializableList kids
    | _ => True
  def SerializableList : List Node → Prop
    | [] => True
    | k :: ks => Serializable k ∧ SerializableList ks
end

theorem serializable_tag {ns name : String} {attrs : List Attr} {kids : List Node} :
    Serializable (.tag ns name attrs kids) ↔
      ':' ∉ name.toList ∧ ns ≠ Gen.xmlnsNamespace ∧ (∀ a ∈ attrs, AttrOk a) ∧
      (attrs.map (fun a => (a.ns, a.name))).Nodup ∧ SerializableList kids := by
  rw [Serializable]; rfl

theorem serializableList_cons {k : Node} {ks : List Node} :
    SerializableList (k :: ks) ↔ Serializable k ∧ SerializableList ks := by
  rw [SerializableList]

theorem Serializable.tag {ns name : String} {attrs : List Attr} {kids : List Node}
    (h : Serializable (.tag ns name attrs kids)) :
    ':' ∉ name.toList ∧ ns ≠ Gen.xmlnsNamespace ∧ (∀ a ∈ attrs, AttrOk a) ∧
      (attrs.map (fun a => (a.ns, a.name))).Nodup ∧ SerializableList kids :=
  serializable_tag.mp h

theorem SerializableList.cons {k : Node} {ks : List Node} (h : SerializableList (k :: ks)) :
    Serializable k ∧ SerializableList ks :=
  serializableList_cons.mp h

theorem serializableList_append : ∀ {a b : List Node}, SerializableList a → SerializableList b →
    SerializableList (a ++ b)
  | [], _, _, hb => hb
  | _ :: _, _, ha, hb => serializableList_cons.mpr ⟨ha.cons.1, serializableList_append ha.cons.2 hb⟩

theorem serializableList_texts : ∀ (g : List Str), SerializableList (g.map Node.text)
  | [] => trivial
  | _ :: g => serializableList_cons.mpr ⟨trivial, serializableList_texts g⟩

end Delb.Ser
