/-!
# Facts about lists, `Except` and string literals that do not mention the model
-/
namespace Delb

/-! ## results of `Except` computations

Evaluation decides equations between options, not between results (`Except` has no `DecidableEq`); these lemmas carry
an evaluated `toOption` or `isOk` back to the result. -/

theorem eq_ok_of_toOption {ε α : Type} {x : Except ε α} {a : α} (h : x.toOption = some a) : x = .ok a := by
  cases x with
  | error e => cases h
  | ok b => cases h; rfl

theorem eq_ok_getD {ε α : Type} {x : Except ε α} (d : α) (h : x.toOption.isSome = true) :
    x = .ok (x.toOption.getD d) := by
  cases x with
  | error e => cases h
  | ok b => rfl

theorem exists_ok_of_isOk {ε α : Type} {x : Except ε α} (h : x.isOk = true) : ∃ a, x = .ok a := by
  cases x with
  | ok a => exact ⟨a, rfl⟩
  | error e => cases h

theorem exists_ok_of_any {ε α : Type} {x : Except ε α} {p : α → Prop} [DecidablePred p]
    (h : x.toOption.any (fun a => decide (p a)) = true) : ∃ a, x = .ok a ∧ p a := by
  cases x with
  | error e => cases h
  | ok b => exact ⟨b, rfl, of_decide_eq_true h⟩

/-- that a result is a given error, as a Boolean, which evaluation can decide -/
theorem eq_error_of_beq {ε α : Type} [BEq ε] [LawfulBEq ε] {x : Except ε α} {e : ε}
    (h : (match x with | .error e' => e' == e | .ok _ => false) = true) : x = .error e := by
  cases x with
  | error e' => exact congrArg _ (beq_iff_eq.1 h)
  | ok a => cases h

theorem of_guard_eq_ok {ε α : Type} {c : Prop} [Decidable c] {e : ε} {y : Except ε α} {x : α}
    (h : (if c then .error e else y) = .ok x) : ¬ c ∧ y = .ok x := by
  split at h
  · cases h
  · exact ⟨‹_›, h⟩

/-! ## string literals -/

/-- The kernel reads the literal `"ab"` as `String.ofList ['a', 'b']`: with `rfl` for `h` this gives the characters of a
    literal without any computation on byte arrays (evaluating `"ab".toList` or `"a" ++ "b"` is slow). -/
theorem toList_of_eq_ofList {s : String} {l : List Char} (h : s = String.ofList l) : s.toList = l :=
  h ▸ String.toList_ofList

theorem toList_append_of_eq_ofList {a b : String} {l₁ l₂ : List Char} (ha : a = String.ofList l₁)
    (hb : b = String.ofList l₂) : (a ++ b).toList = l₁ ++ l₂ := by
  rw [String.toList_append, toList_of_eq_ofList ha, toList_of_eq_ofList hb]

/-! ## lists without duplicates -/

theorem nodup_of_map {α β : Type} (f : α → β) {l : List α} (h : (l.map f).Nodup) : l.Nodup :=
  List.Pairwise.of_map f (fun _ _ hab e => hab (congrArg f e)) h

theorem nodup_map_of_injOn {α β : Type} {f : α → β} {l : List α} (hf : ∀ a ∈ l, ∀ b ∈ l, f a = f b → a = b)
    (hn : l.Nodup) : (l.map f).Nodup :=
  List.pairwise_map.mpr (hn.imp_of_mem fun ha hb hab e => hab (hf _ ha _ hb e))

theorem eq_of_nodup_map {α β : Type} {f : α → β} {l : List α} (hn : (l.map f).Nodup) {a b : α}
    (ha : a ∈ l) (hb : b ∈ l) (e : f a = f b) : a = b :=
  have hp := List.pairwise_map.1 hn
  List.Pairwise.forall_of_forall_of_flip (R := fun a b => f a = f b → a = b) (fun _ _ _ => rfl)
    (hp.imp fun hne e => absurd e hne) (hp.imp fun hne e => absurd e.symm hne) ha hb e

theorem nodup_reverse_iff {α : Type} {l : List α} : l.reverse.Nodup ↔ l.Nodup := by
  unfold List.Nodup
  rw [List.pairwise_reverse]
  constructor <;> intro h <;> exact h.imp (fun hab e => hab e.symm)

/-- pigeonhole: a duplicate-free list inside a list that is not longer contains all of it -/
theorem subset_of_nodup_of_length_le {α : Type} {l₁ l₂ : List α} (hn : l₁.Nodup) (hsub : l₁ ⊆ l₂)
    (hlen : l₂.length ≤ l₁.length) : l₂ ⊆ l₁ := by
  intro x hx
  apply Classical.byContradiction
  intro hnot
  have hsub' : (x :: l₁) ⊆ l₂ := List.cons_subset.2 ⟨hx, hsub⟩
  have := List.Nodup.length_le_of_subset (List.nodup_cons.2 ⟨hnot, hn⟩) hsub'
  simp only [List.length_cons] at this
  omega

/-! ## lists strictly sorted by an irreflexive, asymmetric relation -/

section
variable {α : Type} {lt : α → α → Bool} (irrefl : ∀ a, lt a a = false)
  (asymm : ∀ {a b}, lt a b = true → lt b a = false)
include irrefl asymm

theorem sorted_ext {l₁ l₂ : List α} (h₁ : l₁.Pairwise (fun a b => lt a b = true))
    (h₂ : l₂.Pairwise (fun a b => lt a b = true)) (hm : ∀ x, x ∈ l₁ ↔ x ∈ l₂) : l₁ = l₂ := by
  induction l₁ generalizing l₂ with
  | nil =>
    cases l₂ with
    | nil => rfl
    | cons b l₂ => exact absurd ((hm b).2 (by simp)) (by simp)
  | cons a l₁ ih =>
    cases l₂ with
    | nil => exact absurd ((hm a).1 (by simp)) (by simp)
    | cons b l₂ =>
      rw [List.pairwise_cons] at h₁ h₂
      have hab : a = b := by
        rcases List.mem_cons.1 ((hm a).1 (by simp)) with h | h
        · exact h
        · rcases List.mem_cons.1 ((hm b).2 (by simp)) with h' | h'
          · exact h'.symm
          · have e1 := h₂.1 a h
            have e2 := h₁.1 b h'
            rw [asymm e1] at e2; cases e2
      subst hab
      congr 1
      refine ih h₁.2 h₂.2 (fun x => ?_)
      constructor
      · intro hx
        rcases List.mem_cons.1 ((hm x).1 (List.mem_cons_of_mem _ hx)) with h | h
        · subst h; have := h₁.1 x hx; rw [irrefl] at this; cases this
        · exact h
      · intro hx
        rcases List.mem_cons.1 ((hm x).2 (List.mem_cons_of_mem _ hx)) with h | h
        · subst h; have := h₂.1 x hx; rw [irrefl] at this; cases this
        · exact h

theorem sorted_before_iff {l : List α} (hl : l.Pairwise (fun a b => lt a b = true)) {a b : α}
    (ha : a ∈ l) (hb : b ∈ l) : lt a b = true ↔ ∃ l₁ l₂ l₃, l = l₁ ++ a :: l₂ ++ b :: l₃ := by
  constructor
  · intro hab
    obtain ⟨x, y, rfl⟩ := List.append_of_mem ha
    obtain ⟨_, hy, hxa⟩ := List.pairwise_append.1 hl
    rcases List.mem_append.1 hb with hbx | hby
    · have := hxa b hbx a (by simp)
      rw [asymm hab] at this; cases this
    · rcases List.mem_cons.1 hby with rfl | hby
      · rw [irrefl] at hab; cases hab
      · obtain ⟨c, d, rfl⟩ := List.append_of_mem hby
        exact ⟨x, c, d, by simp⟩
  · rintro ⟨l₁, l₂, l₃, rfl⟩
    rw [List.append_assoc, List.pairwise_append] at hl
    exact (List.pairwise_cons.1 (List.cons_append ▸ hl.2.1)).1 b (by simp)

end

/-! ## filters and splits of a list -/

theorem takeWhile_dropWhile_mem {α} [BEq α] [LawfulBEq α] (l : List α) (p : α) (hp : p ∈ l) :
    l.takeWhile (· != p) ++ p :: (l.dropWhile (· != p)).drop 1 = l := by
  induction l with
  | nil => cases hp
  | cons x l ih =>
    by_cases hx : x = p
    · subst hx; simp [List.takeWhile, List.dropWhile]
    · have hp' : p ∈ l := by
        rcases List.mem_cons.1 hp with h | h
        · exact absurd h.symm hx
        · exact h
      have hb : (x != p) = true := by simpa using hx
      simp only [List.takeWhile_cons, List.dropWhile_cons, hb, if_true, List.cons_append]
      rw [ih hp']

theorem filter_eq_singleton {α} {Q : α → Bool} {l : List α} {a : α} (hn : l.Nodup) (ha : a ∈ l) (hq : Q a = true)
    (h : ∀ x ∈ l, x ≠ a → Q x = false) : l.filter Q = [a] := by
  obtain ⟨A, B, rfl⟩ := List.append_of_mem ha
  obtain ⟨-, haB, hA⟩ := List.nodup_append.1 hn
  have hA' : A.filter Q = [] := List.filter_eq_nil_iff.2 fun x hx =>
    Bool.not_eq_true _ ▸ h x (List.mem_append_left _ hx) (hA x hx a List.mem_cons_self)
  have hB' : B.filter Q = [] := List.filter_eq_nil_iff.2 fun x hx =>
    Bool.not_eq_true _ ▸ h x (List.mem_append_right _ (List.mem_cons_of_mem _ hx))
      (fun e => (List.nodup_cons.1 haB).1 (e ▸ hx))
  rw [List.filter_append, List.filter_cons, if_pos hq, hA', hB']
  rfl

theorem zipIdx_filter_sublist {α} (p : α × Nat → Bool) (k : Nat) (l : List α) :
    (((l.zipIdx k).filter p).map (·.1)).Sublist l := by
  have := (List.filter_sublist (p := p) (l := l.zipIdx k)).map (·.1)
  rwa [List.zipIdx_map_fst] at this

/-! ## spans, infixes, separators, insertion -/

theorem span_loop_append {α : Type} (p : α → Bool) (r : List α) (hr : ∀ b r', r = b :: r' → p b = false) :
    ∀ (l acc : List α), (∀ x ∈ l, p x = true) → List.span.loop p (l ++ r) acc = (acc.reverse ++ l, r)
  | [], acc, _ => by
    cases r with
    | nil => simp [List.span.loop]
    | cons b r' => simp [List.span.loop, hr b r' rfl]
  | a :: l, acc, h => by
    have ha : p a = true := h a (by simp)
    simp only [List.cons_append, List.span.loop, ha]
    rw [span_loop_append p r hr l (a :: acc) (fun x hx => h x (by simp [hx]))]
    simp

theorem not_infix_iff {α : Type} {s l : List α} : ¬ l <:+: s ↔ ∀ a b, s ≠ a ++ (l ++ b) := by
  constructor
  · intro h a b e
    exact h ⟨a, b, by rw [e, List.append_assoc]⟩
  · rintro h ⟨a, b, e⟩
    exact h a b (by rw [← e, List.append_assoc])

theorem not_suffix_iff {α : Type} {s l : List α} : ¬ l <:+ s ↔ ∀ a, s ≠ a ++ l :=
  ⟨fun h a e => h ⟨a, e.symm⟩, fun h ⟨a, e⟩ => h a e.symm⟩

theorem filter_sep {α : Type} (p : α → Bool) (nl l : List α) (hn : ∀ x ∈ nl, p x = false)
    (hl : ∀ x ∈ l, p x = true) : (l.flatMap (fun x => nl ++ [x])).filter p = l := by
  have hn' : nl.filter p = [] := List.filter_eq_nil_iff.2 fun x hx => by simp [hn x hx]
  induction l with
  | nil => rfl
  | cons x l ih =>
    rw [List.forall_mem_cons] at hl
    rw [List.flatMap_cons, List.filter_append, List.filter_append, hn', ih hl.2, List.filter_cons_of_pos hl.1]
    rfl

theorem intersperse_cons {α : Type} (sep a : α) (l : List α) :
    (a :: l).intersperse sep = a :: l.flatMap (fun x => [sep, x]) := by
  induction l generalizing a with
  | nil => rfl
  | cons x xs ih => rw [List.intersperse_cons_cons, ih]; rfl

theorem mem_flatten_zip {α β : Type} {x : α} {f : β → List α} (os : List (List α)) (ts : List β)
    (h : os.length = ts.length) (hp : ∀ p ∈ List.zip os ts, (x ∈ p.1 ↔ x ∈ f p.2)) :
    x ∈ os.flatten ↔ ∃ t ∈ ts, x ∈ f t := by
  induction os generalizing ts with
  | nil =>
    cases ts with
    | nil => simp
    | cons t ts => cases h
  | cons o os ih =>
    cases ts with
    | nil => cases h
    | cons t ts =>
      have h1 : x ∈ o ↔ x ∈ f t := hp (o, t) List.mem_cons_self
      have h2 := ih ts (Nat.succ.inj h) (fun p hp' => hp p (List.mem_cons_of_mem _ hp'))
      simp only [List.flatten_cons, List.mem_append, List.mem_cons, exists_eq_or_imp, h1, h2]

theorem insert_perm {α : Type} (ins : α → List α → List α) (hnil : ∀ a, ins a [] = [a])
    (hcons : ∀ a b l, ins a (b :: l) = a :: b :: l ∨ ins a (b :: l) = b :: ins a l) (a : α) :
    ∀ l, (ins a l).Perm (a :: l)
  | [] => by rw [hnil]
  | b :: l => by
    rcases hcons a b l with h | h <;> rw [h]
    exact ((insert_perm ins hnil hcons a l).cons b).trans (List.Perm.swap a b l)

theorem foldr_insert_perm {α : Type} (ins : α → List α → List α) (hnil : ∀ a, ins a [] = [a])
    (hcons : ∀ a b l, ins a (b :: l) = a :: b :: l ∨ ins a (b :: l) = b :: ins a l) :
    ∀ l : List α, (l.foldr ins []).Perm l
  | [] => .nil
  | a :: l => (insert_perm ins hnil hcons a _).trans ((foldr_insert_perm ins hnil hcons l).cons a)

/-! ## ends of a list; `find?` where at most one element matches -/

theorem getLast?_some_of_ne {α} {l : List α} (h : l ≠ []) : ∃ a, l.getLast? = some a :=
  Option.isSome_iff_exists.1 (List.getLast?_isSome.2 h)

theorem dropLast_getLast {α : Type} (d : α) (ls : List α) (h : ls ≠ []) : ls.dropLast ++ [ls.getLast?.getD d] = ls := by
  rw [List.getLast?_eq_some_getLast h]
  simp [List.dropLast_concat_getLast]

theorem take_getElem_prefix {α : Type} (pre rest : List α) (c : α) (n : Nat) (h : pre.length = n) :
    (pre ++ c :: rest).take n = pre ∧ (pre ++ c :: rest)[n]? = some c := by
  subst h; simp

theorem find?_eq_of_unique {α} (p : α → Bool) (l l' : List α)
    (hu : ∀ x ∈ l, ∀ y ∈ l, p x = true → p y = true → x = y) (hmem : ∀ a, a ∈ l' ↔ a ∈ l) :
    l'.find? p = l.find? p := by
  cases h : l.find? p with
  | none =>
    rw [List.find?_eq_none] at h ⊢
    intro x hx; exact h x ((hmem x).1 hx)
  | some a =>
    have ha := List.mem_of_find?_eq_some h
    have hpa := List.find?_some h
    cases h' : l'.find? p with
    | none =>
      rw [List.find?_eq_none] at h'
      exact absurd hpa (h' a ((hmem a).2 ha))
    | some b =>
      have hb := List.mem_of_find?_eq_some h'
      have hpb := List.find?_some h'
      rw [hu b ((hmem b).1 hb) a ha hpb hpa]

/-! ## taking lists apart -/

theorem eq_take_cons_drop {α : Type} {l : List α} {n : Nat} {x : α} (h : l[n]? = some x) :
    l = l.take n ++ x :: l.drop (n + 1) := by
  obtain ⟨hn, rfl⟩ := List.getElem?_eq_some_iff.1 h
  rw [← List.drop_eq_getElem_cons hn, List.take_append_drop]

theorem eq_nil_or_snoc {α : Type} (l : List α) : l = [] ∨ ∃ a c, l = a ++ [c] := by
  simpa [List.concat_eq_append] using List.eq_nil_or_concat l

theorem snoc_induction {α : Type} {P : List α → Prop} (nil : P []) (snoc : ∀ a c, P a → P (a ++ [c])) :
    ∀ a, P a := by
  intro a
  have : ∀ n (a : List α), a.length = n → P a := by
    intro n
    induction n with
    | zero => intro a h; have : a = [] := List.eq_nil_of_length_eq_zero h; subst this; exact nil
    | succ n ih =>
      intro a h
      rcases eq_nil_or_snoc a with rfl | ⟨L, b, rfl⟩
      · simp at h
      · exact snoc L b (ih L (by simp at h; omega))
  exact this _ a rfl

theorem getLast?_append_ne {α : Type} (a b : List α) (hb : b ≠ []) : (a ++ b).getLast? = b.getLast? := by
  rw [List.getLast?_append]
  cases h : b.getLast? with
  | none => exact absurd (List.getLast?_eq_none_iff.1 h) hb
  | some c => rfl

theorem dropWhile_eq_nil_all {α : Type} (f : α → Bool) (a : List α) (h : a.dropWhile f = []) :
    ∀ x ∈ a, f x = true := by
  induction a with
  | nil => intro x hx; cases hx
  | cons y a ih =>
    rw [List.dropWhile_cons] at h
    split at h
    · rename_i hy
      exact List.forall_mem_cons.2 ⟨hy, ih h⟩
    · cases h

theorem dropWhile_append_ne {α : Type} (f : α → Bool) (a b : List α) (h : a.dropWhile f ≠ []) :
    (a ++ b).dropWhile f = a.dropWhile f ++ b := by
  rw [List.dropWhile_append, if_neg (by simpa using h)]

/-! ## a list around one of its positions

`l = A ++ x :: B` with `A.length = n` puts `x` at position `n` of `l`; inserting, erasing and replacing at `n` are read
off that shape. -/

theorem getElem?_mid {α} (A : List α) (x : α) (B : List α) : (A ++ x :: B)[A.length]? = some x := by simp

theorem eraseIdx_mid {α} (A : List α) (x : α) (B : List α) : (A ++ x :: B).eraseIdx A.length = A ++ B := by
  rw [List.eraseIdx_append_of_length_le (Nat.le_refl _)]
  simp

theorem eraseIdx_mid_succ {α} (A : List α) (x y : α) (B : List α) :
    (A ++ x :: y :: B).eraseIdx (A.length + 1) = A ++ x :: B := by
  rw [List.eraseIdx_append_of_length_le (by omega)]
  simp

theorem getElem?_split {α : Type} {l : List α} {n : Nat} {x : α} (h : l[n]? = some x) :
    ∃ A B, l = A ++ x :: B ∧ A.length = n :=
  ⟨l.take n, l.drop (n + 1), eq_take_cons_drop h,
    List.length_take_of_le (Nat.le_of_lt (List.getElem?_eq_some_iff.1 h).1)⟩

theorem lt_length_split {α : Type} {l : List α} {n : Nat} (h : n < l.length) :
    ∃ A x B, l = A ++ x :: B ∧ A.length = n :=
  let ⟨A, B, h1, h2⟩ := getElem?_split (List.getElem?_eq_getElem h)
  ⟨A, _, B, h1, h2⟩

theorem getElem?_of_split {α} {L A B : List α} {x : α} {n : Nat} (hL : L = A ++ x :: B) (hn : A.length = n) :
    L[n]? = some x := by
  subst hL hn; exact getElem?_mid A x B

theorem eq_insert {α} {R L A B : List α} {x : α} {n : Nat}
    (hL : L = A ++ B) (hR : R = A ++ x :: B) (hn : A.length = n) :
    R = L.take n ++ x :: L.drop n := by
  subst hL hR hn
  rw [List.take_left' rfl, List.drop_left' rfl]

theorem eq_erase {α} {R L A B : List α} {x : α} {n : Nat}
    (hL : L = A ++ x :: B) (hR : R = A ++ B) (hn : A.length = n) :
    R = L.eraseIdx n ∧ L[n]? = some x := by
  subst hL hR hn
  exact ⟨(eraseIdx_mid A x B).symm, getElem?_mid A x B⟩

theorem eq_set {α} {R L A B : List α} {x y : α} {n : Nat}
    (hL : L = A ++ x :: B) (hR : R = A ++ y :: B) (hn : A.length = n) :
    R = L.set n y ∧ L[n]? = some x := by
  subst hL hR hn
  exact ⟨by simp, getElem?_mid A x B⟩

theorem splice_following_list {α} (ks : List α) (j : Nat) (hj : j ≤ ks.length) (new : α) (off : List α) :
    (ks.take j ++ [new] ++ ks.drop j).take (j + 1) ++ off ++ (ks.take j ++ [new] ++ ks.drop j).drop (j + 1) =
      ks.take j ++ (new :: off) ++ ks.drop j := by
  have hlen : (ks.take j ++ [new]).length = j + 1 := by simp [List.length_take, Nat.min_eq_left hj]
  rw [List.take_left' hlen, List.drop_left' hlen]
  simp

theorem splice_preceding_list {α} (ks : List α) (j : Nat) (hj : j ≤ ks.length) (new : α) (off : List α) :
    (ks.take j ++ [new] ++ ks.drop j).take j ++ off.reverse ++ (ks.take j ++ [new] ++ ks.drop j).drop j =
      ks.take j ++ (new :: off).reverse ++ ks.drop j := by
  have hlen : (ks.take j).length = j := by simp [List.length_take, Nat.min_eq_left hj]
  rw [List.append_assoc (ks.take j), List.take_left' hlen, List.drop_left' hlen]
  simp

theorem eraseIdx_splice {α} (ks : List α) (k : Nat) (hk : k < ks.length) (off : List α) :
    (ks.take (k + 1) ++ off ++ ks.drop (k + 1)).eraseIdx k = ks.take k ++ off ++ ks.drop (k + 1) := by
  have h1 : ks.take (k + 1) = ks.take k ++ [ks[k]] := by
    rw [List.take_succ_eq_append_getElem hk]
  have hlen : (ks.take k).length = k := by simp [List.length_take]; omega
  rw [h1, List.append_assoc, List.append_assoc, List.eraseIdx_append_of_length_le (by omega), hlen]
  simp

theorem eraseIdx_take_drop {α} (ks : List α) (k : Nat) (hk : k < ks.length) (cs : List α) :
    (ks.eraseIdx k).take k ++ cs ++ (ks.eraseIdx k).drop k = ks.take k ++ cs ++ ks.drop (k + 1) := by
  have hlen : (ks.take k).length = k := by simp [List.length_take]; omega
  rw [List.eraseIdx_eq_take_drop_succ, List.take_left' hlen, List.drop_left' hlen]

/-! ## the hits of a filter before a position -/

theorem filter_getElem?_count {α} (P : α → Bool) (l : List α) (i : Nat) (hi : i < l.length)
    (hP : P l[i] = true) :
    (l.filter P)[((l.take i).filter P).length]? = some l[i] := by
  have key : ∀ (a b : List α) (x : α), P x = true →
      ((a ++ x :: b).filter P)[(a.filter P).length]? = some x := by
    intro a b x hx
    rw [List.filter_append, List.filter_cons_of_pos hx, List.getElem?_append_right (Nat.le_refl _)]
    simp
  have := key (l.take i) (l.drop (i + 1)) l[i] hP
  rwa [List.getElem_cons_drop, List.take_append_drop] at this

theorem count_take_succ {α} (P : α → Bool) (l : List α) (i : Nat) (hi : i < l.length) :
    ((l.take (i + 1)).filter P).length = ((l.take i).filter P).length + (if P l[i] then 1 else 0) := by
  rw [← List.take_append_getElem hi, List.filter_append, List.length_append]
  by_cases h : P l[i] = true <;> simp [h]

theorem count_take_lt {α} (P : α → Bool) (l : List α) {i j : Nat} (hij : i < j) (hi : i < l.length)
    (hP : P l[i] = true) :
    ((l.take i).filter P).length < ((l.take j).filter P).length := by
  have h1 := count_take_succ P l i hi
  have h2 := ((List.take_sublist_take_left (l := l) (show i + 1 ≤ j from hij)).filter P).length_le
  simp only [hP, if_true] at h1
  omega

theorem count_take_inj {α} (P : α → Bool) (l : List α) {i j : Nat} (hi : i < l.length) (hj : j < l.length)
    (hPi : P l[i] = true) (hPj : P l[j] = true)
    (h : ((l.take i).filter P).length = ((l.take j).filter P).length) : i = j := by
  rcases Nat.lt_trichotomy i j with hlt | heq | hgt
  · have := count_take_lt P l hlt hi hPi; omega
  · exact heq
  · have := count_take_lt P l hgt hj hPj; omega

/-- counting through indexes is counting through the list -/
theorem count_range_eq {α} (P : α → Bool) (l : List α) (Q : Nat → Bool)
    (hQ : ∀ j (hj : j < l.length), Q j = P l[j]) (i : Nat) (hi : i ≤ l.length) :
    ((List.range i).filter Q).length = ((l.take i).filter P).length := by
  induction i with
  | zero => simp
  | succ i ih =>
    have hi' : i < l.length := by omega
    rw [List.range_succ, List.filter_append, List.length_append, ih (by omega), count_take_succ P l i hi',
      ← hQ i hi']
    by_cases h : Q i = true <;> simp [h]

/-! ## other facts about lists and options -/

theorem filterMap_all_some {α β} (f : α → Option β) (l : List α) (h : ∀ x ∈ l, ∃ y, f x = some y) :
    (l.filterMap f).length = l.length ∧ ∀ i : Nat, (l.filterMap f)[i]? = (l[i]?).bind f := by
  induction l with
  | nil => simp
  | cons a l ih =>
    obtain ⟨y, hy⟩ := h a (by simp)
    obtain ⟨ih1, ih2⟩ := ih (fun x hx => h x (by simp [hx]))
    simp only [List.filterMap_cons, hy, List.length_cons, ih1, true_and]
    intro i
    cases i with
    | zero => simp [hy]
    | succ i => simp [ih2]

theorem flatMap_congr_mem {α β} {l : List α} {f g : α → List β} (h : ∀ a ∈ l, f a = g a) :
    l.flatMap f = l.flatMap g := by
  rw [List.flatMap_def, List.flatMap_def, List.map_congr_left h]

theorem append_sep_inj {α} [BEq α] [LawfulBEq α] (a : α) (l₁ l₂ r₁ r₂ : List α) (h₁ : a ∉ l₁) (h₂ : a ∉ l₂)
    (h : l₁ ++ a :: r₁ = l₂ ++ a :: r₂) : l₁ = l₂ ∧ r₁ = r₂ := by
  have key : ∀ l r, a ∉ l → (l ++ a :: r).takeWhile (· != a) = l := fun l r hl => by
    rw [List.takeWhile_append_of_pos (fun x hx => bne_iff_ne.2 fun (e : x = a) => hl (e ▸ hx)),
      List.takeWhile_cons_of_neg (by simp), List.append_nil]
  have e : l₁ = l₂ := by rw [← key l₁ r₁ h₁, h, key l₂ r₂ h₂]
  subst e
  exact ⟨rfl, (List.cons.inj (List.append_cancel_left h)).2⟩

theorem ite_some_eq_none {α} {c : Prop} [Decidable c] {x : α} {y : Option α} :
    (if c then some x else y) = none ↔ ¬c ∧ y = none := by
  by_cases h : c <;> simp [h]

theorem ite_none_eq_none {α} {c : Prop} [Decidable c] {x : α} : (if c then none else some x) = none ↔ c := by
  by_cases h : c <;> simp [h]

end Delb
