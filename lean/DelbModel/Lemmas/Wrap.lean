import DelbModel.Model.Wrap
/-!
# `_wrap_text` (`Model/Wrap.lean`)

Any text: one round of the loop yields the text whole or cuts it at a space, and the lines joined by single spaces are
the text again, provided it does not end in a space.  C19, a text that is the join of words: `wrap` emits the greedy
groups one by one, hence `wrapText w (join ws) = greedyFill w ws`.
-/
namespace Delb.Wrap

theorem rfindSp_spec : ∀ (t : List Char) (n i : Nat), rfindSp t n = some i →
    i < n ∧ i < t.length ∧ t[i]? = some ' ' := by
  intro t
  induction t with
  | nil => intro n i h; cases n <;> simp [rfindSp] at h
  | cons c cs ih =>
    intro n i h
    cases n with
    | zero => simp [rfindSp] at h
    | succ n =>
      simp only [rfindSp] at h
      split at h
      · rename_i j hj
        have := ih n j hj
        cases h
        simp; omega
      · split at h
        · cases h; subst_vars; simp
        · cases h

theorem findSpFrom_spec : ∀ (t : List Char) (lo i : Nat), findSpFrom t lo = some i →
    lo ≤ i ∧ i < t.length ∧ t[i]? = some ' ' := by
  intro t
  induction t with
  | nil => intro lo i h; cases h
  | cons c cs ih =>
    intro lo i h
    have step : ∀ lo', (findSpFrom cs lo').map (· + 1) = some i →
        ∃ j, i = j + 1 ∧ lo' ≤ j ∧ j < cs.length ∧ cs[j]? = some ' ' := by
      intro lo' h
      obtain ⟨j, hj, rfl⟩ := Option.map_eq_some_iff.1 h
      exact ⟨j, rfl, ih lo' j hj⟩
    cases lo with
    | zero =>
      rw [findSpFrom] at h
      by_cases hc : c = ' '
      · rw [if_pos hc] at h; cases h
        exact ⟨Nat.le_refl 0, Nat.succ_pos _, congrArg some hc⟩
      · rw [if_neg hc] at h
        obtain ⟨j, rfl, _, h2, h3⟩ := step 0 h
        exact ⟨Nat.zero_le _, Nat.succ_lt_succ h2, h3⟩
    | succ lo =>
      rw [findSpFrom] at h
      obtain ⟨j, rfl, h1, h2, h3⟩ := step lo h
      exact ⟨Nat.succ_le_succ h1, Nat.succ_lt_succ h2, h3⟩

theorem take_sp_drop (t : List Char) (i : Nat) (h : t[i]? = some ' ') :
    t.take i ++ ' ' :: t.drop (i+1) = t := by
  induction t generalizing i with
  | nil => cases h
  | cons c cs ih =>
    cases i with
    | zero => cases h; rfl
    | succ i => exact congrArg (c :: ·) (ih i h)

theorem wrap_step (w fuel : Nat) (t : List Char) :
    wrap w (fuel+1) t = (if t = [] then [] else [t]) ∨
    ∃ i, w < t.length ∧ i < t.length ∧ t[i]? = some ' ' ∧
      wrap w (fuel+1) t = t.take i :: wrap w fuel (t.drop (i+1)) := by
  rw [wrap]
  by_cases hlen : t.length > w
  · have hne : t ≠ [] := by rintro rfl; exact Nat.not_lt_zero w hlen
    rw [if_pos hlen]
    cases hr : rfindSp t (w+1) with
    | some i =>
      obtain ⟨_, hil, hsp⟩ := rfindSp_spec t _ i hr
      exact Or.inr ⟨i, hlen, hil, hsp, rfl⟩
    | none =>
      cases hf : findSpFrom t w with
      | none => exact Or.inl (if_neg hne).symm
      | some j =>
        cases j with
        | zero => exact Or.inl (if_neg hne).symm
        | succ i =>
          obtain ⟨_, hil, hsp⟩ := findSpFrom_spec t w (i+1) hf
          exact Or.inr ⟨i+1, hlen, hil, hsp, rfl⟩
  · rw [if_neg hlen]; exact Or.inl rfl

theorem wrap_ne_nil (w : Nat) : ∀ fuel (t : List Char), t ≠ [] → t.length < fuel → wrap w fuel t ≠ [] := by
  intro fuel t hne hf
  cases fuel with
  | zero => exact absurd hf (Nat.not_lt_zero _)
  | succ fuel =>
    rcases wrap_step w fuel t with h | ⟨i, _, _, _, h⟩
    · rw [h, if_neg hne]; exact List.cons_ne_nil _ _
    · rw [h]; exact List.cons_ne_nil _ _

theorem join_cons_ne (l : List Char) (ls : List (List Char)) (h : ls ≠ []) :
    join (l :: ls) = l ++ ' ' :: join ls := by
  cases ls with
  | nil => exact absurd rfl h
  | cons a as => rfl

theorem join_wrap (w : Nat) : ∀ fuel (t : List Char), t.length < fuel →
    t.getLast? ≠ some ' ' → join (wrap w fuel t) = t := by
  intro fuel
  induction fuel with
  | zero => exact fun t h => absurd h (Nat.not_lt_zero _)
  | succ fuel ih =>
    intro t hf hl
    rcases wrap_step w fuel t with h | ⟨i, _, hil, hsp, h⟩
    · rw [h]
      by_cases ht : t = []
      · rw [if_pos ht, ht]; rfl
      · rw [if_neg ht]; rfl
    · have hlt : i + 1 < t.length := by
        refine Nat.lt_of_le_of_ne hil (fun h' => hl ?_)
        rw [List.getLast?_eq_getElem?, ← h', Nat.add_sub_cancel, hsp]
      have hne : t.drop (i+1) ≠ [] := fun h' => Nat.not_le_of_lt hlt (List.drop_eq_nil_iff.1 h')
      have hlen' : (t.drop (i+1)).length < fuel := by
        rw [List.length_drop]
        exact Nat.lt_of_lt_of_le (Nat.sub_lt (Nat.zero_lt_of_lt hlt) (Nat.succ_pos i)) (Nat.le_of_lt_succ hf)
      rw [h, join_cons_ne _ _ (wrap_ne_nil w fuel _ hne hlen'),
        ih _ hlen' (by rw [List.getLast?_drop, if_neg (Nat.not_le_of_lt hlt)]; exact hl)]
      exact take_sp_drop t i hsp

/-! ## a text made of words: `wrap` is the greedy fill (C19) -/

theorem join_append (cur rest : List (List Char)) (h1 : cur ≠ []) (h2 : rest ≠ []) :
    join (cur ++ rest) = join cur ++ ' ' :: join rest := by
  induction cur with
  | nil => exact absurd rfl h1
  | cons a cs ih =>
    by_cases hcs : cs = []
    · rw [hcs]; exact join_cons_ne a rest h2
    · rw [List.cons_append, join_cons_ne _ _ (List.append_ne_nil_of_left_ne_nil hcs _), ih hcs,
        join_cons_ne _ _ hcs, List.append_assoc]
      rfl

theorem join_append_singleton (cur : List (List Char)) (wd : List Char) (h1 : cur ≠ []) :
    join (cur ++ [wd]) = join cur ++ ' ' :: wd :=
  join_append cur [wd] h1 (List.cons_ne_nil _ _)

theorem join_snoc (cur : List (List Char)) : ∃ p, ∀ x, join (cur ++ [x]) = p ++ x := by
  by_cases h : cur = []
  · exact ⟨[], fun x => by rw [h]; rfl⟩
  · exact ⟨join cur ++ [' '], fun x => by rw [join_append_singleton cur x h, List.append_assoc]; rfl⟩

theorem join_cons_prefix (wd : List Char) (wds : List (List Char)) :
    ∃ c, join (wd :: wds) = wd ++ c := by
  cases wds with
  | nil => exact ⟨[], (List.append_nil wd).symm⟩
  | cons a as => exact ⟨' ' :: join (a :: as), rfl⟩

theorem join_ne_nil (cur : List (List Char)) (h1 : cur ≠ []) (h : ∀ wd ∈ cur, IsWord wd) :
    join cur ≠ [] := by
  cases cur with
  | nil => exact absurd rfl h1
  | cons a as =>
    obtain ⟨c, hc⟩ := join_cons_prefix a as
    rw [hc]
    exact List.append_ne_nil_of_left_ne_nil (h a List.mem_cons_self).1 _

theorem rfindSp_none (wd c : List Char) (n : Nat) (h : ' ' ∉ wd) (hn : n ≤ wd.length) :
    rfindSp (wd ++ c) n = none := by
  induction wd generalizing n with
  | nil => rw [Nat.le_zero.1 hn, rfindSp]
  | cons x xs ih =>
    cases n with
    | zero => rw [rfindSp]
    | succ n =>
      rw [List.cons_append, rfindSp, ih n (fun hm => h (List.mem_cons_of_mem _ hm)) (Nat.le_of_succ_le_succ hn),
        if_neg (fun hx => h (List.mem_cons.2 (Or.inl hx.symm)))]

theorem rfindSp_at (a wd c : List Char) (n : Nat) (h : ' ' ∉ wd) (h1 : a.length < n)
    (h2 : n ≤ a.length + 1 + wd.length) :
    rfindSp (a ++ ' ' :: (wd ++ c)) n = some a.length := by
  induction a generalizing n with
  | nil =>
    cases n with
    | zero => exact absurd h1 (Nat.lt_irrefl 0)
    | succ n =>
      rw [List.nil_append, rfindSp, rfindSp_none wd c n h (by rw [List.length_nil] at h2; omega)]
      rfl
  | cons x xs ih =>
    cases n with
    | zero => exact absurd h1 (Nat.not_lt_zero _)
    | succ n =>
      rw [List.length_cons] at h2
      rw [List.cons_append, rfindSp, ih n (Nat.lt_of_succ_lt_succ h1) (by omega)]
      rfl

theorem findSpFrom_at (c b : List Char) (lo : Nat) (h : ' ' ∉ c) (hlo : lo ≤ c.length) :
    findSpFrom (c ++ ' ' :: b) lo = some c.length := by
  induction c generalizing lo with
  | nil => simp at hlo; subst hlo; simp [findSpFrom]
  | cons x xs ih =>
    simp at h
    cases lo with
    | zero => simp [findSpFrom, Ne.symm h.1, ih 0 h.2 (by omega)]
    | succ lo => simp [findSpFrom, ih lo h.2 (by simpa using hlo)]

theorem findSpFrom_none (c : List Char) (lo : Nat) (h : ' ' ∉ c) :
    findSpFrom c lo = none := by
  induction c generalizing lo with
  | nil => simp [findSpFrom]
  | cons x xs ih =>
    simp at h
    cases lo with
    | zero => simp [findSpFrom, Ne.symm h.1, ih 0 h.2]
    | succ lo => simp [findSpFrom, ih lo h.2]

theorem wrap_emit_r (w fuel : Nat) (a wd c : List Char) (h : ' ' ∉ wd) (h1 : a.length ≤ w)
    (h2 : w < a.length + 1 + wd.length) :
    wrap w (fuel+1) (a ++ ' ' :: (wd ++ c)) = a :: wrap w fuel (wd ++ c) := by
  have hlen : (a ++ ' ' :: (wd ++ c)).length > w := by
    rw [List.length_append, List.length_cons, List.length_append]; omega
  rw [wrap, if_pos hlen, rfindSp_at a wd c (w+1) h (Nat.lt_succ_of_le h1) h2]
  dsimp only
  rw [List.take_left' rfl, List.drop_length_add_append]
  rfl

theorem wrap_emit_f (w fuel : Nat) (c b : List Char) (h : ' ' ∉ c) (h1 : w < c.length) :
    wrap w (fuel+1) (c ++ ' ' :: b) = c :: wrap w fuel b := by
  have hlen : (c ++ ' ' :: b).length > w := by
    rw [List.length_append]; exact Nat.lt_of_lt_of_le h1 (Nat.le_add_right _ _)
  obtain ⟨k, hk⟩ : ∃ k, c.length = k + 1 := ⟨c.length - 1, (Nat.succ_pred_eq_of_pos (Nat.zero_lt_of_lt h1)).symm⟩
  rw [wrap, if_pos hlen, rfindSp_none c (' ' :: b) (w+1) h h1, findSpFrom_at c b w h (Nat.le_of_lt h1), hk]
  dsimp only
  rw [List.take_left' hk, show k + 2 = c.length + 1 by rw [hk], List.drop_length_add_append]
  rfl

theorem wrap_last_short (w fuel : Nat) (t : List Char) (h : t ≠ []) (h1 : t.length ≤ w) :
    wrap w (fuel+1) t = [t] := by
  rw [wrap, if_neg (Nat.not_lt_of_le h1), if_neg h]

theorem wrap_last_word (w fuel : Nat) (c : List Char) (hne : c ≠ []) (h : ' ' ∉ c) :
    wrap w (fuel+1) c = [c] := by
  rcases Nat.lt_or_ge w c.length with hl | hl
  · have := rfindSp_none c [] (w+1) h hl
    rw [List.append_nil] at this
    rw [wrap, if_pos hl, this, findSpFrom_none c w h]
  · exact wrap_last_short w fuel c hne hl

theorem wrap_groups (w : Nat) : ∀ (rest cur : List (List Char)) (fuel : Nat),
    cur ≠ [] → (∀ wd ∈ cur, IsWord wd) → (∀ wd ∈ rest, IsWord wd) →
    ((join cur).length ≤ w ∨ ∃ c, cur = [c]) →
    (join (cur ++ rest)).length < fuel →
    wrap w fuel (join (cur ++ rest)) = (groups w cur rest).map join := by
  intro rest
  induction rest with
  | nil =>
    intro cur fuel hne hcur _ hfit hfuel
    cases fuel with
    | zero => exact absurd hfuel (Nat.not_lt_zero _)
    | succ fuel =>
      rw [List.append_nil, groups]
      rcases Nat.lt_or_ge w (join cur).length with hl | hl
      · obtain ⟨c, rfl⟩ := hfit.resolve_left (Nat.not_le_of_lt hl)
        have hc := hcur c List.mem_cons_self
        exact wrap_last_word w fuel c hc.1 hc.2
      · exact wrap_last_short w fuel _ (join_ne_nil cur hne hcur) hl
  | cons wd wds ih =>
    intro cur fuel hne hcur hrest hfit hfuel
    have hwd := hrest wd List.mem_cons_self
    have hwds : ∀ x ∈ wds, IsWord x := fun x hx => hrest x (List.mem_cons_of_mem _ hx)
    rw [groups]
    by_cases hle : (join cur).length + 1 + wd.length ≤ w
    · rw [if_pos hle]
      rw [List.append_cons] at hfuel ⊢
      refine ih (cur ++ [wd]) fuel (List.concat_ne_nil _ _) ?_ hwds (Or.inl ?_) hfuel
      · intro x hx
        rcases List.mem_append.1 hx with h | h
        · exact hcur x h
        · rw [List.mem_singleton.1 h]; exact hwd
      · rw [join_append_singleton cur wd hne, List.length_append, List.length_cons, ← Nat.add_assoc,
          Nat.add_right_comm]; exact hle
    · rw [if_neg hle]
      cases fuel with
      | zero => exact absurd hfuel (Nat.not_lt_zero _)
      | succ fuel =>
        have hj := join_append cur (wd :: wds) hne (List.cons_ne_nil _ _)
        obtain ⟨c, hc⟩ := join_cons_prefix wd wds
        rw [hj, List.length_append, List.length_cons] at hfuel
        have key := ih [wd] fuel (List.cons_ne_nil _ _) (fun x hx => List.mem_singleton.1 hx ▸ hwd) hwds
          (Or.inr ⟨wd, rfl⟩) (Nat.lt_of_le_of_lt (Nat.le_add_left _ _) (Nat.lt_of_succ_lt_succ hfuel))
        rw [List.map_cons, ← key, hj]
        rcases Nat.lt_or_ge w (join cur).length with hl | hl
        · obtain ⟨x, rfl⟩ := hfit.resolve_left (Nat.not_le_of_lt hl)
          exact wrap_emit_f w fuel x _ (hcur x List.mem_cons_self).2 hl
        · rw [List.singleton_append, hc]
          exact wrap_emit_r w fuel (join cur) wd c hwd.2 hl (Nat.lt_of_not_le hle)

theorem wrapText_join_eq_greedyFill (w : Nat) (ws : List (List Char)) (hws : ∀ wd ∈ ws, IsWord wd) :
    wrapText w (join ws) = greedyFill w ws := by
  cases ws with
  | nil => simp [wrapText, greedyFill, greedyGroups, join, wrap]
  | cons wd wds =>
    have hwd : ∀ x ∈ [wd], IsWord x := by
      intro x hx; simp at hx; subst hx; exact hws _ (by simp)
    exact wrap_groups w wds [wd] _ (by simp) hwd
      (fun x hx => hws x (by simp [hx])) (Or.inr ⟨wd, rfl⟩) (Nat.lt_succ_self _)

theorem groups_flatten (w : Nat) : ∀ (rest cur : List (List Char)),
    (groups w cur rest).flatten = cur ++ rest := by
  intro rest
  induction rest with
  | nil => intro cur; rw [groups, List.flatten_cons, List.flatten_nil]
  | cons wd wds ih =>
    intro cur
    rw [groups]
    split
    · rw [ih, List.append_assoc]; rfl
    · rw [List.flatten_cons, ih]; rfl

theorem groups_ne_nil (w : Nat) : ∀ (rest cur : List (List Char)), cur ≠ [] →
    ∀ g ∈ groups w cur rest, g ≠ [] := by
  intro rest
  induction rest with
  | nil => intro cur h g hg; rw [groups, List.mem_singleton] at hg; exact hg ▸ h
  | cons wd wds ih =>
    intro cur h g hg
    rw [groups] at hg
    split at hg
    · exact ih _ (List.concat_ne_nil _ _) g hg
    · rcases List.mem_cons.1 hg with rfl | hg
      · exact h
      · exact ih _ (List.cons_ne_nil _ _) g hg

theorem groups_width (w : Nat) : ∀ (rest cur : List (List Char)), cur ≠ [] →
    ((join cur).length ≤ w ∨ cur.length = 1) →
    ∀ g ∈ groups w cur rest, (join g).length ≤ w ∨ g.length = 1 := by
  intro rest
  induction rest with
  | nil => intro cur _ h g hg; rw [groups, List.mem_singleton] at hg; exact hg ▸ h
  | cons wd wds ih =>
    intro cur hne h g hg
    rw [groups] at hg
    split at hg
    · rename_i hle
      refine ih _ (List.concat_ne_nil _ _) (Or.inl ?_) g hg
      rw [join_append_singleton cur wd hne, List.length_append, List.length_cons, ← Nat.add_assoc,
        Nat.add_right_comm]
      exact hle
    · rcases List.mem_cons.1 hg with rfl | hg
      · exact h
      · exact ih _ (List.cons_ne_nil _ _) (Or.inr rfl) g hg

theorem groups_head (w : Nat) : ∀ (rest cur : List (List Char)),
    ∃ r tl, groups w cur rest = (cur ++ r) :: tl := by
  intro rest
  induction rest with
  | nil => intro cur; exact ⟨[], [], by rw [groups, List.append_nil]⟩
  | cons wd wds ih =>
    intro cur
    rw [groups]
    split
    · obtain ⟨r, tl, h⟩ := ih (cur ++ [wd])
      exact ⟨wd :: r, tl, by rw [h, List.append_assoc]; rfl⟩
    · exact ⟨[], groups w [wd] wds, by rw [List.append_nil]⟩

theorem groups_greedy (w : Nat) : ∀ (rest cur : List (List Char)) (i : Nat)
    (g₁ g₂ : List (List Char)),
    (groups w cur rest)[i]? = some g₁ → (groups w cur rest)[i+1]? = some g₂ →
    ∃ wd r, g₂ = wd :: r ∧ (join g₁).length + 1 + wd.length > w := by
  intro rest
  induction rest with
  | nil => intro cur i g₁ g₂ _ h₂; rw [groups] at h₂; cases h₂
  | cons wd wds ih =>
    intro cur i g₁ g₂ h₁ h₂
    rw [groups] at h₁ h₂
    by_cases hle : (join cur).length + 1 + wd.length ≤ w
    · rw [if_pos hle] at h₁ h₂
      exact ih _ i g₁ g₂ h₁ h₂
    · rw [if_neg hle] at h₁ h₂
      cases i with
      | zero =>
        obtain ⟨r, tl, h⟩ := groups_head w wds [wd]
        rw [h] at h₂
        cases h₁; cases h₂
        exact ⟨wd, r, rfl, Nat.lt_of_not_le hle⟩
      | succ i => exact ih _ i g₁ g₂ h₁ h₂

end Delb.Wrap
