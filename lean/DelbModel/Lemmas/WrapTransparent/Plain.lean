import DelbModel.Lemmas.WrapTransparent.Pieces
import DelbModel.Lemmas.WrapTransparent.LayRel
/-!
# C03 (width ≥ 1): sub-trees written by the plain serializers

The space-preserving serializer (`writeToks` of `emitNode`) and the line-fitting serializer
(`lfSerializeNode`) write pieces that read back as the plain emission of the node.
-/
namespace Delb.Wrapping
open Delb.Ser Delb.WS Delb.Pretty

/-- a parser-shaped sub-tree that whitespace reduction in mode `m` leaves unchanged -/
def RedIn (m : Mode) (k : Node) : Prop := merged k = true ∧ reduceNode rcS m k = k

theorem collapse_of_rc_fixed {s : Str} {f l : Bool} (h : rcS s f l = s) : collapse pyWs s = s := by
  have hO : OnlySp pyWs s := by rw [← h]; exact spec_onlySp _ _ _ _
  have hN : NoDbl s := by rw [← h]; exact spec_noDbl _ pyWs_space _ _ _
  exact collapseAux_fixed pyWs false s hO hN (by simp)

theorem textsOK_mem : ∀ (l : List Node) (f : Bool) (s : Str), TextsOK rcS f l → Node.text s ∈ l →
    ∃ f' l', rcS s f' l' = s ∧ s ≠ [] := by
  intro l
  induction l with
  | nil => intro f s _ h; cases h
  | cons k ks ih =>
    intro f s hok hmem
    rcases List.mem_cons.1 hmem with rfl | h
    · rw [textsOK_text] at hok; exact ⟨_, _, hok.1, hok.2.1⟩
    · exact ih _ _ (textsOK_tail hok) h

theorem mergedAll_mem : ∀ {l : List Node}, mergedAll l = true → ∀ k ∈ l, merged k = true
  | [], _, k, hk => by cases hk
  | x :: xs, h, k, hk => by
    simp only [mergedAll_cons, Bool.and_eq_true] at h
    rcases List.mem_cons.1 hk with rfl | hk
    · exact h.1
    · exact mergedAll_mem h.2 k hk

theorem directive_default {attrs : List Attr} {m : Mode} (h : directive attrs m = .default) :
    directive attrs .default = .default := by
  unfold directive at h ⊢
  split
  · rfl
  · rename_i a ha
    rw [ha] at h
    dsimp only at h ⊢
    split
    · rfl
    · rename_i h1
      rw [if_neg h1] at h
      split
      · rename_i h2; rw [if_pos h2] at h; cases h
      · rfl

theorem redIn_kids {m : Mode} {ns name : String} {attrs : List Attr} {kids : List Node}
    (h : RedIn m (.tag ns name attrs kids)) :
    mergedKids kids = true ∧ mergedAll kids = true ∧
    (∀ k ∈ kids, k.isText = false → RedIn (directive attrs m) k) ∧
    (directive attrs m = .default → TextsOK rcS true kids) := by
  obtain ⟨hm, hr⟩ := h
  simp only [merged_tag, Bool.and_eq_true] at hm
  obtain ⟨hmk, hma⟩ := hm
  rw [reduceNode_tag] at hr
  cases hd : directive attrs m with
  | preserve =>
    rw [hd] at hr
    simp only [Node.tag.injEq, true_and, finishKids_preserve] at hr
    have hidem := (idem_reduce_all _ (spec_idem pyWs pyWs_space)).2 kids .preserve hma
    rw [hr] at hidem
    exact ⟨hmk, hma, fun k hk _ => ⟨mergedAll_mem hma k hk, (hidem k hk).1⟩, nofun⟩
  | default =>
    have hd0 := directive_default hd
    obtain ⟨h1, h2⟩ := reduced_kids hd0 hmk hma (by rw [reduceNode_tag, hd0]; rw [hd] at hr; exact hr)
    exact ⟨hmk, hma, fun k hk hnt => ⟨mergedAll_mem hma k hk, h1 k hk hnt⟩, fun _ => h2⟩

theorem mergedKids_text_ne {kids : List Node} (h : mergedKids kids = true) {s : Str} (hs : Node.text s ∈ kids) :
    s ≠ [] := by
  induction kids with
  | nil => cases hs
  | cons k ks ih =>
    rcases List.mem_cons.1 hs with rfl | h'
    · rw [mergedKids_text] at h
      simp only [Bool.and_eq_true, Bool.not_eq_true', List.isEmpty_eq_false_iff] at h
      exact h.1.1
    · exact ih (mergedKids_tail h) h'

theorem write_exact (st : St) (x : Piece) (h : st.preserveSpace = true ∨ st.offset ≠ 0)
    (he : isEmptyPiece x = false) (hr : renderPiece x ≠ []) : (write st [x]).out = st.out ++ [x] := by
  rw [write_single st x ?_ he hr]
  intro hp h0
  rcases h with h | h
  · rw [hp] at h; cases h
  · exact absurd h0 h

def isCharsTok : Tok → Bool
  | .chars _ => true
  | _ => false

theorem renderTok_mk_last {t : Tok} (h : isCharsTok t = false) : (renderTok t).getLast? = some '>' := by
  cases t with
  | stag qn attrs sc =>
    cases sc
    · show ((['<'] ++ qn ++ renderAttrs attrs) ++ ['>']).getLast? = some '>'
      exact List.getLast?_concat
    · show (['<'] ++ qn ++ renderAttrs attrs ++ ['/', '>']).getLast? = some '>'
      rw [getLast?_append_ne _ _ (by simp)]; rfl
  | etag qn =>
    show ((['<', '/'] ++ qn) ++ ['>']).getLast? = some '>'
    exact List.getLast?_concat
  | comment s =>
    show ("<!--".toList ++ s ++ "-->".toList).getLast? = some '>'
    rw [getLast?_append_ne _ _ (by decide +kernel)]; decide +kernel
  | pi t s =>
    show ("<?".toList ++ t.toList ++ [' '] ++ s ++ "?>".toList).getLast? = some '>'
    rw [getLast?_append_ne _ _ (by decide +kernel)]; decide +kernel
  | chars s => cases h

theorem write_verb_mk (st : St) (t : Tok) (ht : isCharsTok t = false) :
    (write st [.verbatim [t]]).out = st.out ++ [.verbatim [t]] ∧ (write st [.verbatim [t]]).offset ≠ 0 := by
  refine write_solid st _ (fun s => ⟨nofun, nofun, ?_⟩) ?_ ?_
  · intro h; cases h; cases ht
  · cases t <;> first | rfl | cases ht
  · rw [show renderPiece (.verbatim [t]) = renderTok t by simp [renderPiece, render]]
    exact renderTok_mk_last ht

/-! ## the space-preserving serializer -/

theorem writeToks_cons (st : St) (t : Tok) (ts : List Tok) :
    writeToks st (t :: ts) = writeToks (write st [.verbatim [t]]) ts := rfl

theorem writeToks_frame : ∀ (ts : List Tok) (st : St), (writeToks st ts).level = st.level ∧
    (writeToks st ts).unwritten = st.unwritten ∧ (writeToks st ts).space = st.space ∧
    (writeToks st ts).preserveSpace = st.preserveSpace
  | [], _ => ⟨rfl, rfl, rfl, rfl⟩
  | t :: ts, st => by
    rw [writeToks_cons]
    simpa using writeToks_frame ts (write st [.verbatim [t]])

@[simp] theorem writeToks_level (st : St) (ts : List Tok) : (writeToks st ts).level = st.level :=
  (writeToks_frame ts st).1
@[simp] theorem writeToks_unwritten (st : St) (ts : List Tok) : (writeToks st ts).unwritten = st.unwritten :=
  (writeToks_frame ts st).2.1
@[simp] theorem writeToks_space (st : St) (ts : List Tok) : (writeToks st ts).space = st.space :=
  (writeToks_frame ts st).2.2.1
@[simp] theorem writeToks_preserveSpace (st : St) (ts : List Tok) :
    (writeToks st ts).preserveSpace = st.preserveSpace := (writeToks_frame ts st).2.2.2

def CharsSep : List Tok → Prop
  | [] => True
  | [_] => True
  | a :: b :: rest => (isCharsTok a = true → isCharsTok b = false) ∧ CharsSep (b :: rest)

theorem charsSep_tail {a : Tok} {rest : List Tok} (h : CharsSep (a :: rest)) : CharsSep rest := by
  cases rest with
  | nil => trivial
  | cons b r => exact h.2

def StartsMk (toks : List Tok) : Prop := ∀ t ∈ toks.head?, isCharsTok t = false
def EndsMk (toks : List Tok) : Prop := ∀ t ∈ toks.getLast?, isCharsTok t = false

theorem startsMk_cons {t : Tok} (ts : List Tok) (h : isCharsTok t = false) : StartsMk (t :: ts) := by
  intro t' ht; cases ht; exact h

theorem endsMk_concat (ts : List Tok) {t : Tok} (h : isCharsTok t = false) : EndsMk (ts ++ [t]) := by
  intro t' ht; rw [List.getLast?_concat] at ht; cases ht; exact h

theorem writeToks_out : ∀ (toks : List Tok) (st : St),
    (st.preserveSpace = true ∨ (CharsSep toks ∧ (st.offset ≠ 0 ∨ StartsMk toks))) →
    (∀ s, Tok.chars s ∈ toks → s ≠ []) →
    (writeToks st toks).out = st.out ++ toks.map (fun t => Piece.verbatim [t]) ∧
    (∀ t, toks.getLast? = some t → isCharsTok t = false → (writeToks st toks).offset ≠ 0) := by
  intro toks
  induction toks with
  | nil => intro st _ _; exact ⟨by simp [writeToks], fun t h => by cases h⟩
  | cons t ts ih =>
    intro st h0 hne
    have hstep : (write st [.verbatim [t]]).out = st.out ++ [.verbatim [t]] ∧
        (isCharsTok t = false → (write st [.verbatim [t]]).offset ≠ 0) := by
      cases ht : isCharsTok t with
      | false => exact ⟨(write_verb_mk st t ht).1, fun _ => (write_verb_mk st t ht).2⟩
      | true =>
        cases t with
        | chars s =>
          have hs := hne s (by simp)
          refine ⟨write_exact st _ ?_ (by simpa [isEmptyPiece] using hs)
            (by simpa [renderPiece, render, renderTok] using escapeText_ne_nil hs), fun h => by cases h⟩
          rcases h0 with h | ⟨_, h | h⟩
          · exact Or.inl h
          · exact Or.inr h
          · exact absurd (h (.chars s) rfl) (by simp [isCharsTok])
        | _ => cases ht
    have hnext : (write st [.verbatim [t]]).preserveSpace = true ∨
        (CharsSep ts ∧ ((write st [.verbatim [t]]).offset ≠ 0 ∨ StartsMk ts)) := by
      rcases h0 with h | ⟨hsep, _⟩
      · exact Or.inl (by rw [write_preserveSpace]; exact h)
      · refine Or.inr ⟨charsSep_tail hsep, ?_⟩
        cases ht : isCharsTok t with
        | false => exact Or.inl (hstep.2 ht)
        | true =>
          right
          cases ts with
          | nil => intro t' ht'; cases ht'
          | cons b r => intro t' ht'; cases ht'; exact hsep.1 ht
    obtain ⟨i1, i2⟩ := ih (write st [.verbatim [t]]) hnext (fun s hs => hne s (by simp [hs]))
    rw [writeToks_cons]
    refine ⟨by rw [i1, hstep.1]; simp, ?_⟩
    intro t' hl hmk
    cases ts with
    | nil =>
      cases hl
      exact hstep.2 hmk
    | cons t2 ts2 => exact i2 t' (by simpa using hl) hmk

theorem eraseAll_verbatim (toks : List Tok) : eraseAll (toks.map (fun t => Piece.verbatim [t])) = toks := by
  induction toks with
  | nil => rfl
  | cons t ts ih => simp [erase, ih]

/-! ## the line-fitting serializer -/

theorem plainAttrs_erase (ad : List (Str × Str)) : (plainAttrs ad).map (fun a => (a.2.1, a.2.2)) = ad := by
  simp [plainAttrs, Function.comp_def]

/-- a text node as the line-fitting serializer may meet it in mode `mode` -/
def TextOK (mode : Mode) : Node → Prop
  | .text s => s ≠ [] ∧ (mode = .default → collapse pyWs s = s)
  | _ => True

/-- what the line-fitting serializer guarantees for one node; `sp` is the mode it is left in -/
def LfPost (m : Dict) (k : Node) (st : St) (sp : Mode) (st' : St) : Prop :=
  ∃ N, emitNode m k = .ok (eraseAll N) ∧ st'.out = st.out ++ N ∧ st'.space = sp ∧
    st'.level = st.level ∧ st'.unwritten = st.unwritten ∧ (k.isText = false → st'.offset ≠ 0 ∧ EndsMarkup N)

theorem LfPost.single {m : Dict} {k : Node} (st : St) {sp : Mode} {x : Piece} (hx : IsMk x)
    (hk : emitNode m k = .ok (erase x)) (hsp : st.space = sp) : LfPost m k st sp (write st [x]) :=
  ⟨[x], by simpa using hk, (write_mk st x hx).1, by simpa using hsp, by simp, by simp,
    fun _ => ⟨(write_mk st x hx).2, [], x, rfl, isMk_notGap hx⟩⟩

theorem collapse_no_nl_head {s : Str} (h : collapse pyWs s = s) : s.head? ≠ some '\n' := by
  cases s with
  | nil => simp
  | cons c cs =>
    intro hc
    simp at hc; subst hc
    unfold collapse at h
    rw [collapseAux_cons] at h
    simp [pyWs_nl] at h

theorem emitNode_tag_ok {m : Dict} {ns name : String} {attrs : List Attr} {kids : List Node} {p : String}
    {ad : List (Str × Str)} {ks : List Tok} (hp : pfx m ns = .ok p) (had : attrsData m (sortAttrs attrs) = .ok ad)
    (hks : emitKids m kids = .ok ks) :
    emitNode m (.tag ns name attrs kids) =
      .ok (if kids.isEmpty then [.stag (p ++ name).toList ad true]
           else .stag (p ++ name).toList ad false :: ks ++ [.etag (p ++ name).toList]) := by
  rw [emitNode, hp, had, hks]
  dsimp only
  split <;> rfl

theorem redIn_text (mode : Mode) (s : Str) : RedIn mode (.text s) := ⟨by simp, by simp⟩

theorem lf_spec (m : Dict) :
    (∀ k : Node, ∀ st mode, st.space = mode → RedIn mode k → TextOK mode k → (k.isText = true → st.offset ≠ 0) →
      Post (lfSerializeNode m k st) (LfPost m k st st.space)) ∧
    (∀ ks : List Node, ∀ st mode, st.space = mode → mergedKids ks = true →
      (∀ k ∈ ks, RedIn mode k ∧ TextOK mode k) → (headIsText ks = true → st.offset ≠ 0) →
      Post (lfHandleChildNodes m ks st) (fun st' => ∃ N, emitKids m ks = .ok (eraseAll N) ∧ st'.out = st.out ++ N ∧
        st'.space = st.space ∧ st'.level = st.level ∧ st'.unwritten = st.unwritten)) := by
  apply Pretty.node_induct
  · intro ns name attrs kids ih st mode hmode hred _ _
    obtain ⟨hmk, _, hkids, htexts⟩ := redIn_kids hred
    have hok : ∀ k ∈ kids, RedIn (directive attrs mode) k ∧ TextOK (directive attrs mode) k := by
      intro k hk
      cases k with
      | text s =>
        refine ⟨redIn_text _ s, mergedKids_text_ne hmk hk, fun hd => ?_⟩
        obtain ⟨f', l', hfix, _⟩ := textsOK_mem _ _ _ (htexts hd) hk
        exact collapse_of_rc_fixed hfix
      | _ => exact ⟨hkids _ hk rfl, trivial⟩
    rw [lfSerializeNode_tag]
    refine Post_bind_of (Post_self _) (fun p hp => ?_)
    refine Post_bind_of (Post_self _) (fun ad had => ?_)
    refine Post_bind_of (R := LfPost m (.tag ns name attrs kids) (lfEnter attrs st) (directive attrs st.space)) ?_ ?_
    · by_cases hke : kids.isEmpty = true
      · rw [if_pos hke, Post_pure]
        have hk0 : kids = [] := by simpa using hke
        subst hk0
        exact .single _ trivial ((emitNode_tag_ok hp had rfl).trans (by simp [erase, plainAttrs_erase]))
          (lfEnter_space attrs st)
      · rw [if_neg hke]
        obtain ⟨w1, w2⟩ := write_mk (lfEnter attrs st) (.stag (p ++ name).toList (plainAttrs ad) [] false) trivial
        refine Post_bind_of (ih _ _ (by rw [write_space, lfEnter_space, hmode]) hmk hok (fun _ => w2)) ?_
        intro st2 ⟨N, e1, e2, e4, e5, e6⟩
        rw [Post_pure]
        obtain ⟨v1, v2⟩ := write_mk st2 (.etag (p ++ name).toList) trivial
        exact ⟨[.stag (p ++ name).toList (plainAttrs ad) [] false] ++ N ++ [.etag (p ++ name).toList],
          (emitNode_tag_ok hp had e1).trans (by simp [erase, plainAttrs_erase, hke]), by rw [v1, e2, w1]; simp,
          by rw [write_space, e4, write_space, lfEnter_space], by rw [write_level, e5, write_level],
          by rw [write_unwritten, e6, write_unwritten], fun _ => ⟨v2, _, _, rfl, rfl⟩⟩
    · intro st2 ⟨N, e1, e2, e4, e5, e6, e7⟩
      rw [Post_pure]
      exact ⟨N, e1, by simpa using e2, lfLeave_space _ _ _ e4, by simpa using e5, by simpa using e6,
        fun h => ⟨by simpa using (e7 h).1, (e7 h).2⟩⟩
  · intro s st mode hmode _ ⟨hs, hcol⟩ hoff
    have hw : (if (st.space == Mode.default) = true then normText s else s) = s := by
      split
      · rename_i hd; exact hcol (by rw [← hmode]; simpa using hd)
      · rfl
    rw [lfSerializeNode_text m s st hs, hw, Post_ok]
    exact ⟨[.text s], by simp [emitNode, hs, erase],
      write_exact st _ (Or.inr (hoff rfl)) (by simpa [isEmptyPiece] using hs) (escapeText_ne_nil hs), by simp, by simp,
      by simp, by simp [Node.isText]⟩
  · intro s st mode _ _ _ _
    rw [lfSerializeNode, Post_ok]
    exact .single st (x := .comment s) trivial (by simp [emitNode, erase]) rfl
  · intro t s st mode _ _ _ _
    rw [lfSerializeNode, Post_ok]
    exact .single st (x := .pi t s) trivial (by simp [emitNode, erase]) rfl
  · intro st mode _ _ _ _
    rw [lfHandleChildNodes, Post_ok]
    exact ⟨[], by simp [emitKids], by simp, rfl, rfl, rfl⟩
  · intro k ks ihk ihks st mode hmode hmk hok hoff
    rw [lfHandleChildNodes_cons]
    obtain ⟨hredk, htxk⟩ := hok k (by simp)
    refine Post_bind_of (ihk st mode hmode hredk htxk (fun h => hoff (by simpa using h))) ?_
    intro st1 ⟨N, e1, e2, e4, e5, e6, e7⟩
    have hoff' : headIsText ks = true → st1.offset ≠ 0 := by
      intro hh
      rcases k.text_or_not with ⟨s, rfl⟩ | hkt
      · rw [mergedKids_text] at hmk; simp at hmk; rw [hmk.1.2] at hh; cases hh
      · exact (e7 hkt).1
    refine Post_mono (ihks st1 mode (by rw [e4, hmode]) (mergedKids_tail hmk) (fun x hx => hok x (by simp [hx]))
      hoff') ?_
    intro st2 ⟨N2, g1, g2, g4, g5, g6⟩
    exact ⟨N ++ N2, by simp [emitKids, e1, g1], by rw [g2, e2]; simp, by rw [g4, e4], by rw [g5, e5], by rw [g6, e6]⟩

/-! ## `_serialize_appendable_node` -/

theorem emit_chars_ne (m : Dict) :
    (∀ k : Node, ∀ toks, emitNode m k = .ok toks → ∀ s, Tok.chars s ∈ toks → s ≠ []) ∧
    (∀ ks : List Node, ∀ toks, emitKids m ks = .ok toks → ∀ s, Tok.chars s ∈ toks → s ≠ []) := by
  apply Pretty.node_induct
  · intro ns name attrs kids ih toks h s hs
    obtain ⟨p, ad, ks, _, _, hks, rfl⟩ := emitNode_tag_inv h
    split at hs
    · simp at hs
    · simp at hs
      exact ih _ hks s hs
  · intro t toks h s hs
    rw [emitNode.eq_2] at h
    split at h
    · cases h; simp at hs
    · rename_i hne
      cases h
      simp at hs; subst hs
      simpa [List.isEmpty_iff] using hne
  · intro t toks h s hs
    rw [emitNode.eq_3] at h; cases h; simp at hs
  · intro t c toks h s hs
    rw [emitNode.eq_4] at h; cases h; simp at hs
  · intro toks h s hs
    rw [emitKids.eq_1] at h; cases h; simp at hs
  · intro k ks ihk ihks toks h s hs
    obtain ⟨a, b, ha, hb, rfl⟩ := emitKids_cons_inv h
    rcases List.mem_append.1 hs with hs | hs
    · exact ihk _ ha s hs
    · exact ihks _ hb s hs

theorem emitNode_tag_last {m : Dict} {ns name : String} {attrs : List Attr} {kids : List Node} {toks : List Tok}
    (h : emitNode m (.tag ns name attrs kids) = .ok toks) (ad : List (Str × Str)) :
    (∃ L t, toks = L ++ [t] ∧ isCharsTok t = false) ∧ ∃ L t, withAd ad toks = L ++ [t] ∧ isCharsTok t = false := by
  obtain ⟨pp, ad', ks, _, _, _, rfl⟩ := emitNode_tag_inv h
  split
  · exact ⟨⟨[], _, rfl, rfl⟩, [], _, rfl, rfl⟩
  · exact ⟨⟨.stag (pp ++ name).toList ad' false :: ks, .etag (pp ++ name).toList, rfl, rfl⟩,
      .stag (pp ++ name).toList ad false :: ks, .etag (pp ++ name).toList, rfl, rfl⟩

/-- the pieces `N` end in markup and read back as the plain emission of a laid-out `k` -/
def Markup (m : Dict) (k : Node) (N : List Piece) : Prop :=
  EndsMarkup N ∧ ∃ u, Lay k u ∧ emitNode m u = .ok (eraseAll N)

theorem Markup.plain {m : Dict} {k : Node} {N : List Piece} (h : emitNode m k = .ok (eraseAll N))
    (hN : EndsMarkup N) : Markup m k N := ⟨hN, k, Lay.plain k, h⟩

/-- `st'` is `st` after writing indentation `ind` (at the beginning of a line only) and the markup `N` of the
    node `k` -/
structure TagOut (e : Env) (k : Node) (st st' : St) (ind N : List Piece) : Prop where
  out : st'.out = st.out ++ ind ++ N
  ind_gap : IsGap ind
  ind_ws : AllWs (gapChars ind)
  ind_start : ind ≠ [] → st.offset = 0
  markup : Markup e.m k N
  offset : st'.offset ≠ 0
  level : st'.level = st.level
  unwritten : st'.unwritten = st.unwritten
  space : st'.space = .default

def TagPost (e : Env) (k : Node) (st st' : St) : Prop := ∃ ind N, TagOut e k st st' ind N

section
variable {e : Env} {k : Node} {st st0 st' : St} {ind N : List Piece}

theorem TagOut.of_markup (hout : st'.out = st.out ++ N) (hN : Markup e.m k N) (hoff : st'.offset ≠ 0)
    (hlev : st'.level = st.level) (hunw : st'.unwritten = st.unwritten) (hsp : st'.space = .default) :
    TagOut e k st st' [] N :=
  ⟨by simpa using hout, .nil, allWs_nil, fun h => absurd rfl h, hN, hoff, hlev, hunw, hsp⟩

theorem TagOut.indent (h0 : WsStep st st0 ind) (hs : ind ≠ [] → st.offset = 0) (h : TagOut e k st0 st' [] N) :
    TagOut e k st st' ind N :=
  ⟨by rw [h.out, h0.out]; simp, h0.gap, h0.ws, hs, h.markup, h.offset, h.level.trans h0.level,
    h.unwritten.trans h0.unwritten, h.space⟩

theorem TagOut.single {x : Piece} (hx : IsMk x) (hk : emitNode e.m k = .ok (erase x)) (hsp : st.space = .default) :
    TagOut e k st (write st [x]) [] [x] :=
  .of_markup (write_mk st x hx).1 (.plain (by simpa using hk) ⟨[], x, rfl, isMk_notGap hx⟩) (write_mk st x hx).2
    (by simp) (by simp) (by simpa using hsp)

theorem TagOut.setPreserve (h : TagOut e k st st' ind N) (b : Bool) :
    TagOut e k st { st' with preserveSpace := b } ind N := ⟨h.1, h.2, h.3, h.4, h.5, h.6, h.7, h.8, h.9⟩

theorem TagOut.of_setPreserve {b : Bool} (h : TagOut e k { st with preserveSpace := b } st' ind N) :
    TagOut e k st st' ind N := ⟨h.1, h.2, h.3, h.4, h.5, h.6, h.7, h.8, h.9⟩
end

section
variable (e : Env) (hind : AllWs e.o.indent)
include hind

theorem appendable_spec {p : Path} {k : Node} {st : St} (hk : nodeAt e.root p = some k) (hnt : k.isText = false)
    (hred : RedIn .default k) (hsp : st.space = .default) (hps : k.isTag = false → st.preserveSpace = false) :
    Post (serializeAppendableNode e p st) (fun st' => TagPost e k st st' ∧ st'.preserveSpace = false) := by
  rw [serializeAppendableNode_eq, getNode_eq hk, ok_bind]
  obtain ⟨ind, h0, hc⟩ := wsStep_ite st (st.offset == 0 && !e.o.indent.isEmpty) (allWs_indentN e.o hind st.level)
  have hstart : ind ≠ [] → st.offset = 0 := fun h => by have := hc h; simp at this; exact this.1
  generalize (if (st.offset == 0 && !e.o.indent.isEmpty) = true then write st [.layout (indentN e.o st.level)]
    else st) = st0 at h0 ⊢
  have hsp0 : st0.space = .default := h0.space.trans hsp
  cases k with
  | text s => simp [Node.isText] at hnt
  | comment s =>
    rw [Post_pure]
    exact ⟨⟨ind, _, (TagOut.single (x := .comment s) trivial (by simp [emitNode, erase]) hsp0).indent h0 hstart⟩,
      by simp [h0.preserveSpace, hps rfl]⟩
  | pi t s =>
    rw [Post_pure]
    exact ⟨⟨ind, _, (TagOut.single (x := .pi t s) trivial (by simp [emitNode, erase]) hsp0).indent h0 hstart⟩,
      by simp [h0.preserveSpace, hps rfl]⟩
  | tag ns name attrs kids =>
    simp only
    refine Post_ite (fun _ => ?_) (fun _ => ?_)
    · -- written by the space-preserving serializer
      refine (Post_bind _ _ _).2 ?_
      intro toks htoks
      rw [Post_pure]
      obtain ⟨v1, v6⟩ := writeToks_out toks { st0 with preserveSpace := true } (Or.inl rfl)
        ((emit_chars_ne e.m).1 _ _ htoks)
      obtain ⟨⟨L, tl, rfl, hmk⟩, _⟩ := emitNode_tag_last htoks []
      refine ⟨⟨ind, _, ((TagOut.of_markup (st := st0) v1 (.plain (by rw [eraseAll_verbatim]; exact htoks)
        ⟨L.map (fun t => Piece.verbatim [t]), .verbatim [tl], by simp, rfl⟩) (v6 tl List.getLast?_concat hmk)
        (by simp) (by simp) (by simpa using hsp0)).indent h0 hstart).setPreserve false⟩, rfl⟩
    · -- written by the line-fitting serializer
      refine Post_bind_of ((lf_spec e.m).1 _ st0 .default hsp0 hred trivial (by simp)) ?_
      intro st1 ⟨N, e1, e2, e4, e5, e6, e7⟩
      rw [Post_pure]
      exact ⟨⟨ind, N, ((TagOut.of_markup e2 (.plain e1 (e7 rfl).2) (e7 rfl).1 e5 e6 (e4.trans hsp0)).indent h0
        hstart).setPreserve false⟩, rfl⟩
end
/-! ## the space-preserving serializer at the root (`writer.preserve_space` is not set there) -/

theorem charsSep_append : ∀ (a b : List Tok), CharsSep a → CharsSep b → (EndsMk a ∨ StartsMk b) → CharsSep (a ++ b)
  | [], b, _, hb, _ => hb
  | [x], b, _, hb, h => by
    cases b with
    | nil => trivial
    | cons y r =>
      refine ⟨fun hx => ?_, hb⟩
      rcases h with h | h
      · have := h x (by simp); rw [this] at hx; cases hx
      · exact h y (by simp)
  | x :: y :: r, b, ha, hb, h => by
    refine ⟨ha.1, ?_⟩
    have := charsSep_append (y :: r) b ha.2 hb (by
      rcases h with h | h
      · left; intro t ht; exact h t (by simpa using ht)
      · exact Or.inr h)
    exact this

theorem emit_sep (m : Dict) :
    (∀ k : Node, merged k = true → ∀ toks, emitNode m k = .ok toks →
      CharsSep toks ∧ (k.isText = false → StartsMk toks ∧ EndsMk toks ∧ toks ≠ [])) ∧
    (∀ ks : List Node, mergedKids ks = true → mergedAll ks = true → ∀ toks, emitKids m ks = .ok toks →
      CharsSep toks ∧ (headIsText ks = false → StartsMk toks)) := by
  apply Pretty.node_induct
  · intro ns name attrs kids ih hm toks h
    simp only [merged_tag, Bool.and_eq_true] at hm
    obtain ⟨p, ad, ks, _, _, hks, rfl⟩ := emitNode_tag_inv h
    obtain ⟨i1, _⟩ := ih hm.1 hm.2 ks hks
    by_cases hke : kids.isEmpty = true
    · rw [if_pos hke]
      exact ⟨trivial, fun _ => ⟨startsMk_cons _ rfl, endsMk_concat [] rfl, by simp⟩⟩
    · rw [if_neg hke]
      have hs1 : CharsSep (ks ++ [Tok.etag (p ++ name).toList]) :=
        charsSep_append ks _ i1 trivial (Or.inr (startsMk_cons _ rfl))
      have hs2 : CharsSep ([Tok.stag (p ++ name).toList ad false] ++ (ks ++ [Tok.etag (p ++ name).toList])) :=
        charsSep_append _ _ trivial hs1 (Or.inl (endsMk_concat [] rfl))
      exact ⟨by simpa using hs2, fun _ => ⟨startsMk_cons _ rfl, endsMk_concat (_ :: ks) rfl, by simp⟩⟩
  · intro s _ toks h
    rw [emitNode.eq_2] at h
    split at h <;> cases h
    · exact ⟨trivial, fun h => by simp at h⟩
    · exact ⟨trivial, fun h => by simp at h⟩
  · intro s _ toks h
    rw [emitNode.eq_3] at h; cases h
    exact ⟨trivial, fun _ => ⟨startsMk_cons _ rfl, endsMk_concat [] rfl, by simp⟩⟩
  · intro t s _ toks h
    rw [emitNode.eq_4] at h; cases h
    exact ⟨trivial, fun _ => ⟨startsMk_cons _ rfl, endsMk_concat [] rfl, by simp⟩⟩
  · intro _ _ toks h
    rw [emitKids.eq_1] at h; cases h
    exact ⟨trivial, fun _ => by intro t ht; simp at ht⟩
  · intro k ks ihk ihks hmk hma toks h
    obtain ⟨a, b, ha, hb, rfl⟩ := emitKids_cons_inv h
    simp only [mergedAll_cons, Bool.and_eq_true] at hma
    obtain ⟨k1, k2⟩ := ihk hma.1 a ha
    rcases k.text_or_not with ⟨s, rfl⟩ | hkt
    · rw [mergedKids_text] at hmk
      simp only [Bool.and_eq_true, Bool.not_eq_true'] at hmk
      obtain ⟨r1, r2⟩ := ihks hmk.2 hma.2 b hb
      exact ⟨charsSep_append a b k1 r1 (Or.inr (r2 hmk.1.2)), fun h => by cases h⟩
    · obtain ⟨r1, _⟩ := ihks (mergedKids_tail hmk) hma.2 b hb
      obtain ⟨s1, s2, s3⟩ := k2 hkt
      refine ⟨charsSep_append a b k1 r1 (Or.inl s2), fun _ => ?_⟩
      intro t ht
      obtain ⟨x, xs, rfl⟩ := List.exists_cons_of_ne_nil s3
      exact s1 t (by simpa using ht)

end Delb.Wrapping
