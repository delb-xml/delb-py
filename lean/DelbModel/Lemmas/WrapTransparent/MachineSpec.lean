import DelbModel.Lemmas.WrapTransparent.Skeleton
/-!
# C03 (width ≥ 1), machine half: what the serializer's methods write

Under the assumption `TextSpec` about `_serialize_text` (proved in `WrapTransparent/Text.lean`), every
method of the text-wrapping serializer writes pieces that read back as the plain emission of a
laid-out tree (`Lay`).
-/
namespace Delb.Wrapping
open Delb.Ser Delb.WS Delb.Pretty

theorem withAd_self {m : Dict} {ns name : String} {attrs : List Attr} {kids : List Node} {toks : List Tok}
    {ad : List (Str × Str)} (h : emitNode m (.tag ns name attrs kids) = .ok toks)
    (had : attrsData m (sortAttrs attrs) = .ok ad) : withAd ad toks = toks := by
  obtain ⟨p, ad', ks, _, had', _, rfl⟩ := emitNode_tag_inv h
  rw [had] at had'; cases had'
  split <;> rfl

theorem withAd_chars (ad : List (Str × Str)) (toks : List Tok) (s : Str) (h : Tok.chars s ∈ withAd ad toks) :
    Tok.chars s ∈ toks := by
  unfold withAd at h
  split at h
  · simp at h ⊢; exact h
  · exact h

theorem wsStep_nl (st : St) : ∃ g, WsStep st (write st [nl]) g ∧ (st.offset ≠ 0 → gapChars g = ['\n']) :=
  wsStep_write st allWs_nl

/-- `serialize_node` on a non-text child `k` at position `i` of an element in default mode; `t` is the text of the gap
    before `k`, `first` says whether that gap begins at the start tag.  `SpecN` … `SpecC`, one per mutually recursive
    method, are proved together by induction on `fuel` (`machine_spec`). -/
def SpecN (e : Env) (fuel : Nat) : Prop :=
  ∀ (q : Path) (ns name : String) (attrs : List Attr) (kids : List Node) (i : Nat) (k : Node) (t : Option Str)
    (first : Bool) (st : St),
    Par e q ns name attrs kids → kids[i]? = some k → k.isText = false → tB kids i = t → firstOf t i = first →
    (Ready e t first st ∨ ∃ s, t = some s ∧ Pending q i s first st) →
    Post (serializeNode e fuel (q ++ [i]) st) (NodePost e (q ++ [i]) k t first st)

/-- `TextWrappingSerializer._serialize_tag` on an element reduced in default mode -/
def SpecT (e : Env) (fuel : Nat) : Prop :=
  ∀ (p : Path) (ns name : String) (attrs : List Attr) (kids : List Node) (ad : List (Str × Str)) (st : St),
    nodeAt e.root p = some (.tag ns name attrs kids) → RedIn .default (.tag ns name attrs kids) →
    attrsData e.m (sortAttrs attrs) = .ok ad → st.space = .default → st.unwritten = [] →
    st.preserveSpace = (directive attrs .default == .preserve) →
    Post (serializeTag e fuel p ad st) (TagPost e (.tag ns name attrs kids) st)

/-- `PrettySerializer._serialize_tag`: as `SpecT`, without indentation.  `ad` is what the start tag is written with
    (at the root: with the namespace declarations), `ad0` the attributes data of the node -/
def SpecP (e : Env) (fuel : Nat) : Prop :=
  ∀ (p : Path) (ns name : String) (attrs : List Attr) (kids : List Node) (ad ad0 : List (Str × Str)) (st : St),
    nodeAt e.root p = some (.tag ns name attrs kids) → RedIn .default (.tag ns name attrs kids) →
    attrsData e.m (sortAttrs attrs) = .ok ad0 → st.space = .default → st.unwritten = [] →
    st.preserveSpace = (directive attrs .default == .preserve) →
    Post (prettySerializeTag e fuel p ad st) (fun st' => ∃ N, st'.out = st.out ++ N ∧ EndsMarkup N ∧
      (∃ u toks, Lay (.tag ns name attrs kids) u ∧ emitNode e.m u = .ok toks ∧ eraseAll N = withAd ad toks) ∧
      st'.offset ≠ 0 ∧ st'.level = st.level ∧ st'.unwritten = [] ∧ st'.space = .default)

/-- `_handle_child_nodes`, behind the start tag of an element in default mode -/
def SpecH (e : Env) (fuel : Nat) : Prop :=
  ∀ (q : Path) (ns name : String) (attrs : List Attr) (kids : List Node) (st : St),
    Par e q ns name attrs kids → kids ≠ [] → Base st → st.unwritten = [] → st.offset ≠ 0 → trailGap st.out = [] →
    Post (handleChildNodes e fuel q kids.length st) (fun st' => ∃ ps, st'.out = st.out ++ ps ∧
      KidsOut e.m true none [] kids ps ∧ Base st' ∧ st'.level = st.level ∧ st'.unwritten = [])

/-- `_serialize_child_nodes` from position `i` on, in the gap with text `t` (pending, if any) of which
    `trailGap st.out` is written -/
def SpecC (e : Env) (fuel : Nat) : Prop :=
  ∀ (q : Path) (ns name : String) (attrs : List Attr) (kids : List Node) (i : Nat) (t : Option Str) (first : Bool)
    (st : St),
    Par e q ns name attrs kids → i ≤ kids.length → tB kids i = t → firstOf t i = first →
    Base st → Off st → AllWs (trailGap st.out) → (trailGap st.out ≠ [] → legBK first t (kids.drop i) = true) →
    st.unwritten = (match t with | some _ => [q ++ [i - 1]] | none => []) →
    Post (serializeChildNodes e fuel q i kids.length st) (fun st' => ∃ ps, st'.out = st.out ++ ps ∧
      KidsOut e.m first t (trailGap st.out) (kids.drop i) ps ∧ Base st' ∧ st'.level = st.level ∧ st'.unwritten = [])

section
variable (e : Env) (hind : AllWs e.o.indent)
include hind

theorem nodeStep_spec (fuel : Nat) (ihN : SpecN e fuel) (ihT : SpecT e fuel)
    {q : Path} {ns name : String} {attrs : List Attr} {kids : List Node} {i : Nat} {k : Node} {st : St}
    (hp : Par e q ns name attrs kids) (hk : kids[i]? = some k) (hnt : k.isText = false)
    {t : Option Str} {first : Bool} (ht : tB kids i = t) (hfirst : firstOf t i = first) (hr : Ready e t first st) :
    Post (nodeStep e fuel (q ++ [i]) k st) (NodePost e (q ++ [i]) k t first st) := by
  have hnode : nodeAt e.root (q ++ [i]) = some k := by rw [nodeAt_kid hp.at_]; exact hk
  have hred : RedIn .default k := hp.kidRed (List.mem_of_getElem? hk) hnt
  have hts : ∀ s, t = some s → s ≠ [] :=
    fun s hs => by obtain ⟨j, _, hj⟩ := tB_some (ht.trans hs); exact (hp.textFix (List.mem_of_getElem? hj)).2
  have hLB : legitBefore e.root (q ++ [i]) = legA first t false := by rw [legitBefore_legA hp hk hnt, ht, hfirst]
  obtain ⟨hbase, hoff, hunw, hgap⟩ := hr
  unfold nodeStep
  refine Post_bind_of (Post_self _) (fun fits hfits => ?_)
  by_cases hf : fits = true
  · rw [if_pos hf]
    have hg : GapReady t first (trailGap st.out) := by
      rcases hgap with hg | ⟨s, _, _, hav, _⟩
      · exact hg
      · have := not_fits_zero e st _ k hnode hnt hav fits hfits
        rw [hf] at this; cases this
    refine Post_bind_of (appendable_spec e hind hnode hnt hred hbase.2 (fun _ => hbase.1)) ?_
    intro st1 ⟨⟨ind, N, h1⟩, hps⟩
    refine NodePost.of_steps hts hg hoff hunw (.refl st) (fun h => absurd rfl h) h1 hps ?_
    refine Post_ite (fun hc => ?_) (fun _ => afterNode_spec e _ st1)
    simp only [Bool.and_eq_true] at hc
    exact (Post_pure _ _).2 (trail_nl e st1 hc.2)
  · rw [if_neg hf]
    by_cases hrec : (decide (lineOffset e st > 0) && legitBefore e.root (q ++ [i])) = true
    · -- line break, then once more
      rw [if_pos hrec]
      simp only [Bool.and_eq_true, decide_eq_true_eq] at hrec
      obtain ⟨hlo, hlb⟩ := hrec
      obtain ⟨g0, h0, hgc⟩ := wsStep_nl st
      have hready : Ready e t first (write st [nl]) := by
        refine ⟨h0.base hbase, h0.off hoff, by simp [hunw], Or.inl ?_⟩
        rw [h0.trailGap]
        rcases hgap with hg | ⟨s, hs, how, _, _⟩
        · exact gap_ext hg h0.ws (fun _ => hLB.symm.trans hlb)
        · subst hs
          exact gapOwed_append_ws how h0.ws (by rw [hgc (lineOffset_pos hlo)]; simp)
      exact Post_mono (ihN q ns name attrs kids i k t first _ hp hk hnt ht hfirst (Or.inl hready))
        (fun st' h => h.prepend h0.out h0.gap h0.level)
    · rw [if_neg hrec]
      have hg : GapReady t first (trailGap st.out) := by
        rcases hgap with hg | ⟨s, hs, how, _, hlo⟩
        · exact hg
        · exfalso
          apply hrec
          have hl : legitBefore e.root (q ++ [i]) = true := by rw [hLB, hs]; exact gapOwed_last how
          simp [hlo, hl]
      obtain ⟨g0, h0, hc⟩ := wsStep_ite st (!e.o.indent.isEmpty && st.offset == 0 && legitBefore e.root (q ++ [i]))
        (allWs_indentN e.o hind st.level)
      generalize (if (!e.o.indent.isEmpty && st.offset == 0 && legitBefore e.root (q ++ [i])) = true then
        write st [.layout (indentN e.o st.level)] else st) = st0 at h0 ⊢
      have hfin : ∀ {st2 : St} {ind N : List Piece}, TagOut e k st0 st2 ind N →
          Post (afterNode e (q ++ [i]) { st2 with preserveSpace := false })
            (NodePost e (q ++ [i]) k t first st) :=
        fun h1 => NodePost.of_steps hts hg hoff hunw h0
          (fun h => by have := hc h; simp only [Bool.and_eq_true] at this; exact hLB.symm.trans this.2)
          (h1.setPreserve false) rfl (afterNode_spec e _ _)
      have hsp0 : st0.space = .default := h0.space.trans hbase.2
      unfold plainNodeK
      cases k with
      | text s => simp [Node.isText] at hnt
      | comment s => exact hfin (TagOut.single (x := .comment s) trivial (by simp [emitNode, erase]) hsp0)
      | pi tg s => exact hfin (TagOut.single (x := .pi tg s) trivial (by simp [emitNode, erase]) hsp0)
      | tag ns' name' attrs' kids' =>
        simp only
        refine Post_bind_of (Post_self _) (fun ad had => ?_)
        rw [ite_setPreserve _ (h0.preserveSpace.trans hbase.1)]
        refine Post_bind_of (ihT (q ++ [i]) ns' name' attrs' kids' ad _ hnode hred had hsp0
          (h0.unwritten.trans hunw) rfl) ?_
        intro st2 ⟨ind, N, h1⟩
        exact hfin h1.of_setPreserve
end
section
variable (e : Env) (hind : AllWs e.o.indent) (htext : TextSpec e)
include hind htext

theorem specN_step (fuel : Nat) (ihN : SpecN e fuel) (ihT : SpecT e fuel) : SpecN e (fuel + 1) := by
  intro q ns name attrs kids i k t first st hp hk hnt ht hfirst hpre
  have hnode : nodeAt e.root (q ++ [i]) = some k := by rw [nodeAt_kid hp.at_]; exact hk
  rw [serializeNode_succ, getNode_eq hnode, ok_bind]
  rcases hpre with hr | ⟨s, rfl, hb, ho, hu, hw, hleg⟩
  · rw [if_pos (by rw [hr.unwritten]; rfl)]
    exact nodeStep_spec e hind fuel ihN ihT hp hk hnt ht hfirst hr
  · rw [if_neg (by rw [hu]; simp)]
    obtain ⟨j, rfl, hkt⟩ := tB_some ht
    have hlen : j + 1 < kids.length := (List.getElem?_eq_some_iff.1 hk).1
    rw [firstOf_succ] at hfirst
    subst hfirst
    refine Post_bind_of (htext q ns name attrs kids j s st hp hkt hu hb ho hw hleg) ?_
    intro st1 ⟨g, g1, g2, g3, g4, g5, g6, g7, g8⟩
    have hready : Ready e (some s) (j == 0) st1 := by
      refine ⟨g5, g7, g4, ?_⟩
      rw [g1, trailGap_append_gap _ _ g2]
      rcases g8 with h | ⟨h1, h2, h3⟩
      · rw [beq_false_of_ne (Nat.ne_of_lt hlen)] at h
        exact Or.inl h
      · exact Or.inr ⟨s, rfl, h1, h2, h3⟩
    exact Post_mono (nodeStep_spec e hind fuel ihN ihT hp hk hnt ht (firstOf_succ s j) hready)
      (fun st' h => h.prepend g1 ⟨g2, g3⟩ g6)

omit htext in
theorem specT_step (fuel : Nat) (ihP : SpecP e fuel) : SpecT e (fuel + 1) := by
  intro p ns name attrs kids ad st hnode hred had hsp hunw hps
  rw [serializeTag_succ]
  refine Post_bind_of (Post_true _) (fun fits _ => Post_ite (fun _ => ?_) (fun _ => ?_))
  · exact Post_mono (appendable_spec e hind hnode rfl hred hsp (fun h => by simp [Node.isTag] at h)) (fun _ h => h.1)
  · refine Post_mono (ihP p ns name attrs kids ad ad st hnode hred had hsp hunw hps) ?_
    intro st1 ⟨N, b1, hN, ⟨u, toks, hlay, hemit, her⟩, b6, b7, b8, b9⟩
    obtain ⟨K, rfl⟩ := lay_tag_inv hlay
    rw [withAd_self hemit had] at her
    exact ⟨[], N, .of_markup b1 ⟨hN, _, hlay, her ▸ hemit⟩ b6 b7 (b8.trans hunw.symm) b9⟩
end

section
variable (e : Env)

theorem specP_step (fuel : Nat) (ihH : SpecH e fuel) : SpecP e (fuel + 1) := by
  intro p ns name attrs kids ad ad0 st hnode hred had hsp hunw hps
  rw [prettySerializeTag_succ, getNode_eq hnode, ok_bind]
  simp only
  by_cases hd : (directive attrs .default == .preserve) = true
  · rw [if_pos hd]
    refine (Post_bind _ _ _).2 ?_
    intro toks htoks
    rw [Post_pure]
    have hpt : st.preserveSpace = true := by rw [hps, hd]
    obtain ⟨v1, v6⟩ := writeToks_out (withAd ad toks) st (Or.inl hpt)
      (fun s hs => (emit_chars_ne e.m).1 _ _ htoks s (withAd_chars ad toks s hs))
    obtain ⟨_, L, tl, hL, hmk⟩ := emitNode_tag_last htoks ad
    exact ⟨_, v1, ⟨L.map (fun t => Piece.verbatim [t]), .verbatim [tl], by rw [hL]; simp, rfl⟩,
      ⟨_, toks, Lay.plain _, htoks, eraseAll_verbatim _⟩,
      v6 tl (by rw [hL]; exact List.getLast?_concat) hmk, by simp, by simpa using hunw, by simpa using hsp⟩
  · rw [if_neg hd]
    have hdn : directive attrs .default ≠ .preserve := by simpa using hd
    have hps' : st.preserveSpace = false := by rw [hps]; simpa using hd
    unfold defaultTag
    refine (Post_bind _ _ _).2 ?_
    intro pr hpr
    by_cases hke : kids.isEmpty = true
    · rw [if_pos hke, Post_pure]
      have hk0 : kids = [] := by simpa using hke
      subst hk0
      obtain ⟨w1, w2⟩ := write_mk st (.stag (pr ++ name).toList (layoutAttrs e.o st.level ad).1
        (layoutAttrs e.o st.level ad).2 true) trivial
      refine ⟨_, w1, ⟨[], _, rfl, rfl⟩, ⟨_, [.stag (pr ++ name).toList ad0 true], Lay.plain _, ?_, ?_⟩, w2,
        by simp, by simp [hunw], by simp [hsp]⟩
      · simp [emitNode, hpr, had, emitKids]
      · simp [erase, layoutAttrs_erase, withAd]
    · rw [if_neg hke]
      have hkne : kids ≠ [] := by simpa using hke
      obtain ⟨w1, w2⟩ := write_mk st (.stag (pr ++ name).toList (layoutAttrs e.o st.level ad).1
        (layoutAttrs e.o st.level ad).2 false) trivial
      have hpar : Par e p ns name attrs kids := ⟨hnode, hred, directive_default_of_ne attrs hdn⟩
      refine Post_bind_of (ihH p ns name attrs kids _ hpar hkne ⟨by simp [hps'], by simp [hsp]⟩ (by simp [hunw]) w2
        (by rw [w1]; exact trailGap_markup _ _ rfl)) ?_
      intro st2 ⟨ps, h1, ⟨K, h2, h3⟩, h5, h6, h7⟩
      rw [Post_pure]
      obtain ⟨x1, x2⟩ := write_mk st2 (.etag (pr ++ name).toList) trivial
      -- the end tag follows the last child without more whitespace
      have hK : emitKids e.m (K ++ [.text []]) = .ok (eraseAll ps) := by
        simpa using emitKids_append e.m K [.text []] _ [] h3 (by simp [emitKids, emitNode])
      refine ⟨[.stag (pr ++ name).toList (layoutAttrs e.o st.level ad).1 (layoutAttrs e.o st.level ad).2 false] ++ ps ++
          [.etag (pr ++ name).toList], by rw [x1, h1, w1]; simp, ⟨_, _, rfl, rfl⟩,
        ⟨.tag ns name attrs (K ++ [.text []]),
          .stag (pr ++ name).toList ad0 false :: eraseAll ps ++ [.etag (pr ++ name).toList],
          Lay.elem ns name attrs kids K [] hdn hkne allWs_nil h2, ?_, ?_⟩, x2,
        by rw [write_level, h6, write_level], by rw [write_unwritten, h7], by rw [write_space, h5.2]⟩
      · simp [emitNode, hpr, had, hK]
      · simp [erase, layoutAttrs_erase, withAd]
end
section
variable (e : Env) (hind : AllWs e.o.indent) (htext : TextSpec e)
include hind

theorem specH_step (fuel : Nat) (ihC : SpecC e fuel) : SpecH e (fuel + 1) := by
  intro q ns name attrs kids st hp hkne hbase hunw hoff htg
  rw [handleChildNodes_succ]
  have hlb : legitBefore e.root (q ++ [0]) = true := by
    obtain ⟨k0, ks, rfl⟩ := List.exists_cons_of_ne_nil hkne
    rcases k0.text_or_not with ⟨s, rfl⟩ | hk0
    · rw [legitBefore_text hp.at_ 0 s rfl]; rfl
    · rw [legitBefore_nontext hp.at_ 0 k0 rfl hk0]; rfl
  rw [hlb]
  simp only [if_true]
  obtain ⟨g0, h0, _⟩ := wsStep_nl st
  have htg0 : trailGap (write st [nl]).out = gapChars g0 := by rw [h0.trailGap, htg]; rfl
  refine Post_bind_of (ihC q ns name attrs kids 0 none true
    { write st [nl] with level := (write st [nl]).level + 1 } hp (Nat.zero_le _) rfl rfl
    (base_setLevel (h0.base hbase) _) (off_setLevel (h0.off (fun h => absurd h hoff)) _)
    (by show AllWs (trailGap (write st [nl]).out); rw [htg0]; exact h0.ws) (fun _ => rfl) (by simpa using hunw)) ?_
  intro st2 ⟨ps, h1, h2, h5, h6, h7⟩
  have h2' : KidsOut e.m true none [] kids (g0 ++ ps) := by
    refine .absorb h0.gap ?_
    rw [List.nil_append, ← htg0]
    exact h2
  obtain ⟨gT, hT, _⟩ := wsStep_ite { st2 with level := st2.level - 1 }
    (!e.o.indent.isEmpty && legitAfter e.root (q ++ [kids.length - 1])) (allWs_indentN e.o hind (st2.level - 1))
  rw [Post_pure]
  refine ⟨g0 ++ ps ++ gT, ?_, h2'.trail hT.gap hT.ws, hT.base (base_setLevel h5 _), ?_, hT.unwritten.trans h7⟩
  · rw [hT.out]; simp [h1, h0.out]
  · rw [hT.level]; simp [h6]
end
section
variable (e : Env) (hind : AllWs e.o.indent) (htext : TextSpec e)
include htext

theorem specC_step (fuel : Nat) (ihN : SpecN e fuel) (ihC : SpecC e fuel) : SpecC e (fuel + 1) := by
  intro q ns name attrs kids i t first st hp hile ht hfirst hbase hoff hws hleg hunw
  by_cases hge : i ≥ kids.length
  · rw [serializeChildNodes_done st hge]
    have hdrop : kids.drop i = [] := by rw [List.drop_eq_nil_iff]; omega
    rw [hdrop] at hleg ⊢
    cases t with
    | none =>
      rw [if_pos (by rw [hunw]; rfl), Post_pure]
      exact ⟨[], by simp, .nil .nil (fun T hT => ⟨by simpa using allWs_append hws hT, fun _ => Or.inr rfl⟩), hbase,
        rfl, hunw⟩
    | some s =>
      rw [if_neg (by rw [hunw]; simp)]
      obtain ⟨j, rfl, hkt⟩ := tB_some ht
      rw [firstOf_succ] at hfirst
      subst hfirst
      refine Post_mono (htext q ns name attrs kids j s st hp hkt hunw hbase hoff hws
        (fun hne => Bool.or_eq_true_iff.1 (hleg hne))) ?_
      intro st1 ⟨g, g1, g2, g3, g4, g5, g6, g7, g8⟩
      refine ⟨g, g1, .nil ⟨g2, g3⟩ (fun T hT => ?_), g5, g6, g4⟩
      rcases g8 with h | ⟨h1, _, _⟩
      · rw [beq_iff_eq.2 (Nat.le_antisymm hile hge)] at h
        exact gapOK_append_ws h hT (fun _ => Or.inl rfl)
      · exact absurd h1 (hp.not_owed_last hkt (Nat.le_antisymm hile hge))
  · have hlt : i < kids.length := by omega
    have hki : kids[i]? = some kids[i] := List.getElem?_eq_getElem hlt
    have hdrop : kids.drop i = kids[i] :: kids.drop (i + 1) := List.drop_eq_getElem_cons hlt
    have hnode : nodeAt e.root (q ++ [i]) = some kids[i] := by rw [nodeAt_kid hp.at_]; exact hki
    rw [hdrop] at hleg ⊢
    generalize kids[i] = k at hki hleg hnode
    rcases k.text_or_not with ⟨s, rfl⟩ | hkt
    · rw [serializeChildNodes_text st hnode hlt]
      rw [tB_of_text hp hki] at ht
      subst ht
      rw [legBK_text] at hleg
      have hse : s.isEmpty = false := List.isEmpty_eq_false_iff.2 (hp.textFix (List.mem_of_getElem? hki)).2
      rw [hse]
      simp only [Bool.false_eq_true, if_false, hunw, List.nil_append]
      refine Post_mono (ihC q ns name attrs kids (i + 1) (some s) first { st with unwritten := [q ++ [i]] } hp (by omega)
        (tB_succ_text hki) (by rw [← hfirst]; simp [firstOf]) hbase hoff hws hleg rfl) (fun st1 ⟨ps, h1, h2, h⟩ => ?_)
      exact ⟨ps, h1, h2.text, h⟩
    · rw [serializeChildNodes_nontext st hnode hkt hlt]
      have hpre : Ready e t first st ∨ ∃ s, t = some s ∧ Pending q i s first st := by
        cases t with
        | none =>
          exact Or.inl ⟨hbase, hoff, hunw, Or.inl ⟨hws, fun hne => (legBK_nontext _ _ hkt).symm.trans (hleg hne)⟩⟩
        | some s => exact Or.inr ⟨s, rfl, hbase, hoff, hunw, hws, fun hne => Bool.or_eq_true_iff.1 (hleg hne)⟩
      refine Post_bind_of (ihN q ns name attrs kids i k t first st hp hki hkt ht hfirst hpre) ?_
      intro st1 ⟨g, N, b, hn⟩
      have htg1 : trailGap st1.out = gapChars b := by
        rw [hn.out, trailGap_append_gap _ _ hn.trail.1, trailGap_endsMarkup _ _ hn.markup.1]; rfl
      refine Post_mono (ihC q ns name attrs kids (i + 1) none false st1 hp (by omega) (tB_succ_nontext hki hkt)
        (by simp [firstOf]) hn.base hn.off (by rw [htg1]; exact hn.trail_ws)
        (fun hne => by
          rw [htg1] at hne
          rw [← legitAfter_legBK hp hki hkt]
          exact hn.trail_legit hne)
        hn.unwritten) ?_
      intro st2 ⟨ps, h1, h2, h5, h6, h7⟩
      rw [htg1] at h2
      refine ⟨g ++ N ++ (b ++ ps), by rw [h1, hn.out]; simp, ?_, h5, by rw [h6, hn.level], h7⟩
      exact .node hkt hn.gap hn.gapOK hn.markup (.absorb hn.trail (by simpa using h2))
end
section
variable (e : Env) (hind : AllWs e.o.indent) (htext : TextSpec e)
include hind htext

theorem machine_spec : ∀ fuel, SpecN e fuel ∧ SpecT e fuel ∧ SpecP e fuel ∧ SpecH e fuel ∧ SpecC e fuel := by
  intro fuel
  induction fuel with
  | zero =>
    refine ⟨?_, ?_, ?_, ?_, ?_⟩
    · intro q ns name attrs kids i k t first st _ _ _ _ _ _ a h; simp [serializeNode] at h
    · intro p ns name attrs kids ad st _ _ _ _ _ _ a h; simp [serializeTag] at h
    · intro p ns name attrs kids ad ad0 st _ _ _ _ _ _ a h; simp [prettySerializeTag] at h
    · intro q ns name attrs kids st _ _ _ _ _ _ a h; simp [handleChildNodes] at h
    · intro q ns name attrs kids i t first st _ _ _ _ _ _ _ _ _ a h; simp [serializeChildNodes] at h
  | succ fuel ih =>
    obtain ⟨ihN, ihT, ihP, ihH, ihC⟩ := ih
    exact ⟨specN_step e hind htext fuel ihN ihT, specT_step e hind fuel ihP, specP_step e fuel ihH,
      specH_step e hind fuel ihC, specC_step e htext fuel ihN ihC⟩
end

theorem emitRoot_withAd {m : Dict} {ns name : String} {attrs : List Attr} {K : List Node} {toks : List Tok}
    {ad : List (Str × Str)} (h : emitNode m (.tag ns name attrs K) = .ok toks)
    (had : attrsData m (sortAttrs attrs) = .ok ad) :
    emitRoot m (.tag ns name attrs K) = .ok (withAd (declarations m ++ ad) toks) := by
  obtain ⟨p, ad', ks, _, had', _, hform⟩ := emitNode_tag_inv h
  rw [had] at had'; cases had'
  simp only [emitRoot, h]
  rw [hform]
  by_cases hk : K.isEmpty = true
  · simp only [hk, if_true]; rfl
  · simp only [hk]; rfl

theorem wrapRoot_lay (o : Opts) (ho : AllWs o.indent) (width : Nat) (m : Dict) (ns name : String)
    (attrs : List Attr) (kids : List Node) (hred : RedIn .default (.tag ns name attrs kids))
    (hd : directive attrs .default ≠ .preserve)
    (htext : ∀ fuel, TextSpec { o := o, width := width, m := m, root := .tag ns name attrs kids, fuel := fuel })
    (ps : List Piece) (h : wrapRoot o width m (.tag ns name attrs kids) = .ok ps) :
    ∃ u, Lay (.tag ns name attrs kids) u ∧ emitRoot m u = .ok (eraseAll ps) := by
  obtain ⟨ad, st, had, hst, rfl⟩ := wrapRoot_ok h
  obtain ⟨N, b1, _, ⟨u, toks, b2, b3, b4⟩, _⟩ := (machine_spec _ ho (htext _) _).2.2.1 [] ns name attrs kids
    (declarations m ++ ad) ad {} rfl hred had rfl rfl (by simp; exact hd) st hst
  obtain ⟨K, rfl⟩ := lay_tag_inv b2
  refine ⟨_, b2, ?_⟩
  rw [emitRoot_withAd b3 had, b1, ← b4]
  simp
end Delb.Wrapping
