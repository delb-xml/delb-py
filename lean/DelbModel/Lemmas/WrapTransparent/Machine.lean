import DelbModel.Lemmas.WrapTransparent.Hoare
/-!
# The text-wrapping serializer's methods in a form that is convenient for proofs

The `do` blocks of `Model/Wrapping.lean` with their join points named; every equation is `rfl`, after a case split
where the desugared `do` block is stuck on a node or on the result of a sub-run.
-/
namespace Delb.Wrapping
open Delb.Ser Delb.WS Delb.Pretty

theorem getNode_eq {e : Env} {p : Path} {n : Node} (h : nodeAt e.root p = some n) : getNode e p = .ok n := by
  unfold getNode; rw [h]

theorem lineOffset_pos {e : Env} {st : St} (h : lineOffset e st > 0) : st.offset ≠ 0 := by
  intro h0
  unfold lineOffset at h
  simp [h0] at h

/-! ## the line-fitting serializer -/

/-- `Serializer._serialize_tag`: the mode switch on entering a tag (sic: `preserve_space = space == "default"`) -/
def lfEnter (attrs : List Attr) (st : St) : St :=
  if directive attrs st.space != st.space then
    { st with space := directive attrs st.space, preserveSpace := directive attrs st.space == .default }
  else st

/-- … and on leaving it; `st0` is the state in which the tag was entered -/
def lfLeave (attrs : List Attr) (st0 st : St) : St :=
  if directive attrs st0.space != st0.space then
    { st with space := st0.space, preserveSpace := st0.space == .default }
  else st

section
variable (attrs : List Attr) (st0 st : St)
@[simp] theorem lfEnter_out : (lfEnter attrs st).out = st.out := by unfold lfEnter; split <;> rfl
@[simp] theorem lfEnter_offset : (lfEnter attrs st).offset = st.offset := by unfold lfEnter; split <;> rfl
@[simp] theorem lfEnter_level : (lfEnter attrs st).level = st.level := by unfold lfEnter; split <;> rfl
@[simp] theorem lfEnter_unwritten : (lfEnter attrs st).unwritten = st.unwritten := by unfold lfEnter; split <;> rfl
@[simp] theorem lfEnter_space : (lfEnter attrs st).space = directive attrs st.space := by
  unfold lfEnter
  split
  · rfl
  · rename_i h; exact (by simpa using h : directive attrs st.space = st.space).symm
@[simp] theorem lfLeave_out : (lfLeave attrs st0 st).out = st.out := by unfold lfLeave; split <;> rfl
@[simp] theorem lfLeave_offset : (lfLeave attrs st0 st).offset = st.offset := by unfold lfLeave; split <;> rfl
@[simp] theorem lfLeave_level : (lfLeave attrs st0 st).level = st.level := by unfold lfLeave; split <;> rfl
@[simp] theorem lfLeave_unwritten : (lfLeave attrs st0 st).unwritten = st.unwritten := by unfold lfLeave; split <;> rfl
theorem lfLeave_space (h : st.space = directive attrs st0.space) : (lfLeave attrs st0 st).space = st0.space := by
  unfold lfLeave
  split
  · rfl
  · rename_i h'; rw [h]; simpa using h'
end

theorem lfSerializeNode_tag (m : Dict) (ns name : String) (attrs : List Attr) (kids : List Node) (st : St) :
    lfSerializeNode m (.tag ns name attrs kids) st =
      (pfx m ns >>= fun p => attrsData m (sortAttrs attrs) >>= fun ad =>
        (if kids.isEmpty then pure (write (lfEnter attrs st) [.stag (p ++ name).toList (plainAttrs ad) [] true])
         else lfHandleChildNodes m kids (write (lfEnter attrs st) [.stag (p ++ name).toList (plainAttrs ad) [] false])
           >>= fun st1 => pure (write st1 [.etag (p ++ name).toList]))
        >>= fun st2 => pure (lfLeave attrs st st2)) := by
  rw [lfSerializeNode]
  cases pfx m ns with
  | error err => cases attrsData m (sortAttrs attrs) <;> rfl
  | ok p =>
    cases attrsData m (sortAttrs attrs) with
    | error err => rfl
    | ok ad =>
      simp only [bind, Except.bind, lfEnter, lfLeave]
      by_cases hk : kids.isEmpty = true
      · simp only [hk, if_true]; rfl
      · simp only [hk]
        generalize lfHandleChildNodes m kids _ = r
        cases r <;> rfl

theorem lfSerializeNode_text (m : Dict) (s : Str) (st : St) (hs : s ≠ []) :
    lfSerializeNode m (.text s) st =
      .ok (write st [.text (if st.space == .default then normText s else s)]) := by
  rw [lfSerializeNode, if_neg (by simpa using hs)]
  split <;> rfl

theorem lfHandleChildNodes_cons (m : Dict) (k : Node) (ks : List Node) (st : St) :
    lfHandleChildNodes m (k :: ks) st = (lfSerializeNode m k st >>= lfHandleChildNodes m ks) := by
  rw [lfHandleChildNodes]
  cases lfSerializeNode m k st <;> rfl

/-! ## the text-wrapping serializer -/

/-- last step of `serialize_node` -/
def afterNodeK (st : St) (followingFits : Bool) : Except Err St :=
  if !followingFits then pure (write st [nl]) else pure st

/-- the tail of `serialize_node` -/
def afterNode (e : Env) (p : Path) (st : St) : Except Err St :=
  if legitAfter e.root p then
    match fetchFollowing e.root p with
    | none => afterNodeK st false
    | some following => nodeFitsRemainingLine e st following >>= afterNodeK st
  else pure st

/-- `Serializer.serialize_node` as called from the non-fitting branch, with continuation `k` -/
def plainNodeK (e : Env) (fuel : Nat) (p : Path) (node : Node) (st : St) (k : St → Except Err St) : Except Err St :=
  match node with
  | .tag _ _ attrs _ =>
    attrsData e.m (sortAttrs attrs) >>= fun ad =>
    serializeTag e fuel p ad (if directive attrs .default == .preserve then { st with preserveSpace := true } else st) >>= k
  | .comment s => k (write st [.comment s])
  | .pi t s => k (write st [.pi t s])
  | .text s => k (if s.isEmpty then st else write st [.text s])

/-- `serialize_node` after pending text has been written -/
def nodeStep (e : Env) (fuel : Nat) (p : Path) (node : Node) (st : St) : Except Err St :=
  nodeFitsRemainingLine e st p >>= fun fits =>
  if fits then
    serializeAppendableNode e p st >>= fun st =>
    if (availableSpace e st == 0 || isLastChild e.root p) && legitAfter e.root p then pure (write st [nl])
    else afterNode e p st
  else if lineOffset e st > 0 && legitBefore e.root p then serializeNode e fuel p (write st [nl])
  else
    plainNodeK e fuel p node
      (if !e.o.indent.isEmpty && st.offset == 0 && legitBefore e.root p then
        write st [.layout (indentN e.o st.level)] else st)
      (fun st => afterNode e p { st with preserveSpace := false })

theorem serializeNode_zero (e : Env) (p : Path) (st : St) :
    serializeNode e 0 p st = .error (.invalidCodePath "fuel") := by rw [serializeNode]
theorem serializeTag_zero (e : Env) (p : Path) (ad : List (Str × Str)) (st : St) :
    serializeTag e 0 p ad st = .error (.invalidCodePath "fuel") := by rw [serializeTag]
theorem prettySerializeTag_zero (e : Env) (p : Path) (ad : List (Str × Str)) (st : St) :
    prettySerializeTag e 0 p ad st = .error (.invalidCodePath "fuel") := by rw [prettySerializeTag]
theorem handleChildNodes_zero (e : Env) (p : Path) (n : Nat) (st : St) :
    handleChildNodes e 0 p n st = .error (.invalidCodePath "fuel") := by rw [handleChildNodes]
theorem serializeChildNodes_zero (e : Env) (p : Path) (i n : Nat) (st : St) :
    serializeChildNodes e 0 p i n st = .error (.invalidCodePath "fuel") := by rw [serializeChildNodes]

theorem serializeNode_succ (e : Env) (fuel : Nat) (p : Path) (st : St) :
    serializeNode e (fuel+1) p st =
      (getNode e p >>= fun node =>
        if st.unwritten.isEmpty then nodeStep e fuel p node st
        else serializeText e st >>= nodeStep e fuel p node) := by
  rw [serializeNode]; rfl

theorem serializeTag_succ (e : Env) (fuel : Nat) (p : Path) (ad : List (Str × Str)) (st : St) :
    serializeTag e (fuel+1) p ad st =
      (nodeFitsRemainingLine e st p >>= fun fits =>
        if !p.isEmpty && fits then serializeAppendableNode e p st else prettySerializeTag e fuel p ad st) := by
  rw [serializeTag]

theorem serializeTag_root (e : Env) (fuel : Nat) (ad : List (Str × Str)) (st : St) :
    serializeTag e (fuel+1) [] ad st =
      (nodeFitsRemainingLine e st [] >>= fun _ => prettySerializeTag e fuel [] ad st) := by
  rw [serializeTag_succ]; rfl

theorem wrapRoot_ok {o : Opts} {width : Nat} {m : Dict} {ns name : String} {attrs : List Attr} {kids : List Node}
    {ps : List Piece} (h : wrapRoot o width m (.tag ns name attrs kids) = .ok ps) :
    ∃ ad st, attrsData m (sortAttrs attrs) = .ok ad ∧
      prettySerializeTag ⟨o, width, m, .tag ns name attrs kids, fuelFor (.tag ns name attrs kids)⟩
        (8 * size (.tag ns name attrs kids) + 31) [] (declarations m ++ ad) {} = .ok st ∧ st.out = ps := by
  unfold wrapRoot at h
  dsimp only at h
  cases had : attrsData m (sortAttrs attrs) with
  | error err => simp only [had] at h; cases h
  | ok ad =>
    simp only [had] at h
    generalize (⟨o, width, m, .tag ns name attrs kids, fuelFor (.tag ns name attrs kids)⟩ : Env) = e at h ⊢
    rw [show fuelFor (.tag ns name attrs kids) = 8 * size (.tag ns name attrs kids) + 31 + 1 from rfl,
      serializeTag_root] at h
    cases hfit : nodeFitsRemainingLine e {} [] with
    | error err => rw [hfit] at h; cases h
    | ok fits =>
      rw [hfit, ok_bind] at h
      split at h
      · cases h
      · rename_i st hst
        cases h
        exact ⟨ad, st, rfl, hst, rfl⟩

/-- `_space_preserving_serializer._serialize_tag(node, attributes_data)` and `emitRoot`: the first start tag
    gets the attributes data `ad` -/
def withAd (ad : List (Str × Str)) : List Tok → List Tok
  | .stag qn _ sc :: rest => .stag qn ad sc :: rest
  | ts => ts

/-- `PrettySerializer._serialize_tag` for a node in default mode -/
def defaultTag (e : Env) (fuel : Nat) (p : Path) (ad : List (Str × Str)) (st : St) (ns name : String)
    (kids : List Node) : Except Err St :=
  pfx e.m ns >>= fun pr =>
  if kids.isEmpty then
    pure (write st [.stag (pr ++ name).toList (layoutAttrs e.o st.level ad).1 (layoutAttrs e.o st.level ad).2 true])
  else
    handleChildNodes e fuel p kids.length
      (write st [.stag (pr ++ name).toList (layoutAttrs e.o st.level ad).1 (layoutAttrs e.o st.level ad).2 false])
      >>= fun st => pure (write st [.etag (pr ++ name).toList])

theorem prettySerializeTag_succ (e : Env) (fuel : Nat) (p : Path) (ad : List (Str × Str)) (st : St) :
    prettySerializeTag e (fuel+1) p ad st =
      (getNode e p >>= fun node =>
        match node with
        | .tag ns name attrs kids =>
          if directive attrs .default == .preserve then
            emitNode e.m (.tag ns name attrs kids) >>= fun toks => pure (writeToks st (withAd ad toks))
          else defaultTag e fuel p ad st ns name kids
        | _ => throw (.invalidCodePath "_serialize_tag on a non-tag node")) := by
  rw [prettySerializeTag]
  cases getNode e p with
  | error err => rfl
  | ok node =>
    cases node with
    | tag ns name attrs kids =>
      simp only [bind, Except.bind, defaultTag, withAd]
      split
      · cases emitNode e.m (.tag ns name attrs kids) with
        | error err => rfl
        | ok toks =>
          cases toks with
          | nil => rfl
          | cons t ts => cases t <;> rfl
      · rfl
    | _ => rfl

theorem handleChildNodes_succ (e : Env) (fuel : Nat) (p : Path) (n : Nat) (st : St) :
    handleChildNodes e (fuel+1) p n st =
      (serializeChildNodes e fuel p 0 n
          { (if legitBefore e.root (p ++ [0]) then write st [nl] else st) with
            level := (if legitBefore e.root (p ++ [0]) then write st [nl] else st).level + 1 } >>= fun st =>
        pure (if !e.o.indent.isEmpty && legitAfter e.root (p ++ [n - 1]) then
            write { st with level := st.level - 1 } [.layout (indentN e.o (st.level - 1))]
          else { st with level := st.level - 1 })) := by
  rw [handleChildNodes]
  congr 1
  funext st1
  split <;> rfl

theorem serializeChildNodes_succ (e : Env) (fuel : Nat) (p : Path) (i n : Nat) (st : St) :
    serializeChildNodes e (fuel+1) p i n st =
      if i ≥ n then (if st.unwritten.isEmpty then pure st else serializeText e st)
      else
        getNode e (p ++ [i]) >>= fun node =>
        match node with
        | .text s =>
          serializeChildNodes e fuel p (i + 1) n
            (if s.isEmpty then st else { st with unwritten := st.unwritten ++ [p ++ [i]] })
        | _ => serializeNode e fuel (p ++ [i]) st >>= fun st => serializeChildNodes e fuel p (i + 1) n st := by
  rw [serializeChildNodes]
  split
  · rfl
  · cases getNode e (p ++ [i]) with
    | error err => rfl
    | ok node => cases node <;> rfl

section
variable {e : Env} {fuel : Nat} {p : Path} {i n : Nat} (st : St)

theorem serializeChildNodes_done (h : i ≥ n) :
    serializeChildNodes e (fuel+1) p i n st = if st.unwritten.isEmpty then pure st else serializeText e st := by
  rw [serializeChildNodes_succ, if_pos h]

theorem serializeChildNodes_text {s : Str} (hk : nodeAt e.root (p ++ [i]) = some (.text s)) (h : i < n) :
    serializeChildNodes e (fuel+1) p i n st =
      serializeChildNodes e fuel p (i + 1) n
        (if s.isEmpty then st else { st with unwritten := st.unwritten ++ [p ++ [i]] }) := by
  rw [serializeChildNodes_succ, if_neg (by omega), getNode_eq hk]; rfl

theorem serializeChildNodes_nontext {k : Node} (hk : nodeAt e.root (p ++ [i]) = some k) (hnt : k.isText = false)
    (h : i < n) :
    serializeChildNodes e (fuel+1) p i n st =
      (serializeNode e fuel (p ++ [i]) st >>= serializeChildNodes e fuel p (i + 1) n) := by
  rw [serializeChildNodes_succ, if_neg (by omega), getNode_eq hk]
  cases k <;> first | rfl | cases hnt
end

theorem ite_setPreserve {st : St} (c : Bool) (h : st.preserveSpace = false) :
    (if c = true then { st with preserveSpace := true } else st) = { st with preserveSpace := c } := by
  cases c
  · rw [if_neg Bool.false_ne_true, ← h]
  · rfl

/-- the loop of `_serialize_text_over_lines` -/
def writeLines (pre : Str) (st : St) (lines : List Str) : St :=
  lines.foldl (fun st line => if line.isEmpty then write st [nl] else write st [.layout pre, textPiece line, nl]) st

/-- `_serialize_text_over_lines` from `_consolidate_text_lines` on -/
def linesK (e : Env) (st : St) (lines : List Str) : Except Err St :=
  consolidateTextLines e st lines >>= fun lines =>
  match lines.getLast? with
  | some lastLine =>
    pure (if lastLine.isEmpty then writeLines (indentN e.o st.level) st lines.dropLast
          else write (writeLines (indentN e.o st.level) st lines.dropLast) [.layout (indentN e.o st.level), textPiece lastLine])
  | _ => throw (.invalidCodePath "IndexError: lines[-1]")

/-- `_serialize_text_over_lines` once the lines are known -/
def overLinesTail (e : Env) (lastNode : Path) (st : St) (lines : List Str) : Except Err St :=
  match lines.getLast? with
  | some lastLine =>
    if lastLine.getLast? == some ' ' && legitAfter e.root lastNode then
      match fetchFollowingSibling e.root lastNode with
      | none => linesK e st lines
      | some followingSibling =>
        requiredSpace e e.fuel followingSibling ((e.width : Int) - lastLine.length) >>= fun r =>
        match r with
        | none => linesK e st (lines ++ [[]])
        | some 0 => linesK e st (lines ++ [[]])
        | some _ => linesK e st lines
    else linesK e st lines
  | _ => throw (.invalidCodePath "IndexError: lines[-1]")

/-- `_serialize_text_over_lines` in the middle of a line, once the first part is known -/
def fillingK (e : Env) (firstNode lastNode : Path) (st : St) (content : Str) (filling : Str) : Except Err St :=
  if !(filling.length > availableSpace e st && legitBefore e.root firstNode) then
    if (content.drop (filling.length + 1)).isEmpty then pure (write st [textPiece filling])
    else overLinesTail e lastNode (write st [textPiece filling])
      ([[]] ++ Wrap.wrapText e.width (content.drop (filling.length + 1)))
  else overLinesTail e lastNode st ([[]] ++ Wrap.wrapText e.width content)

theorem serializeTextOverLines_eq (e : Env) (st : St) (content : Str) :
    serializeTextOverLines e st content =
      match st.unwritten.head? with
      | some firstNode =>
        match st.unwritten.getLast? with
        | some lastNode =>
          if st.offset == 0 then
            overLinesTail e lastNode st
              ((if legitBefore e.root firstNode then [[]] else []) ++ Wrap.wrapText e.width (ltrim pyWs content))
          else if content.head? == some ' ' then
            wrapFirst ((availableSpace e st : Int) - 1) (content.drop 1) >>= fun f =>
              fillingK e firstNode lastNode st content (' ' :: f)
          else wrapFirst (availableSpace e st) content >>= fillingK e firstNode lastNode st content
        | _ => throw (.invalidCodePath "IndexError: no unwritten text nodes")
      | _ => throw (.invalidCodePath "IndexError: no unwritten text nodes") := by
  rw [serializeTextOverLines]
  rfl

/-- the end of `_serialize_text` -/
def finishText (st : St) : Except Err St := pure { st with unwritten := [] }

/-- `_serialize_text`, text fits current line, once it is known whether a line break follows -/
def fitsK (st : St) (pre content : Str) (lineBreak : Bool) : Except Err St :=
  finishText (write st (textPieces pre content lineBreak lineBreak))

def fitsLine (e : Env) (st : St) (lastNode : Path) (pre content : Str) : Except Err St :=
  if isLastChild e.root lastNode then fitsK st pre content true
  else
    match fetchFollowing e.root lastNode with
    | none => fitsK st pre content false
    | some following =>
      if legitBefore e.root following then
        requiredSpace e e.fuel following
          ((availableSpace e st : Int) - ((pre.length + content.length : Nat) : Int)) >>= fun r =>
        fitsK st pre content r.isNone
      else fitsK st pre content false

/-- `_serialize_text` for the content of the pending text nodes -/
def textBody (e : Env) (st : St) (content : Str) (lastNode : Path) : Except Err St :=
  if availableSpace e st == (rtrim pyWs content).length && legitAfter e.root lastNode then
    if st.offset == 0 then finishText (write st (textPieces (indentN e.o st.level) (ltrim pyWs content) true true))
    else finishText (write st (textPieces [] content true true))
  else if availableSpace e st > content.length then
    fitsLine e st lastNode (if st.offset == 0 then (indentN e.o st.level, ltrim pyWs content) else ([], content)).1
      (if st.offset == 0 then (indentN e.o st.level, ltrim pyWs content) else ([], content)).2
  else if content == [' '] then finishText (write st [nl])
  else serializeTextOverLines e st content >>= finishText

theorem serializeText_eq (e : Env) (st : St) :
    serializeText e st =
      (st.unwritten.mapM (textAt e) >>= fun ss =>
        match st.unwritten.getLast? with
        | some lastNode => textBody e st (normalizeText ss.flatten) lastNode
        | _ => throw (.invalidCodePath "IndexError: no unwritten text nodes")) := by
  rw [serializeText]
  rfl

theorem serializeAppendableNode_eq (e : Env) (p : Path) (st : St) :
    serializeAppendableNode e p st =
      (getNode e p >>= fun node =>
        match node with
        | .text _ => throw (.assertion "_serialize_appendable_node on a text node")
        | .comment s => pure (write (if st.offset == 0 && !e.o.indent.isEmpty then write st [.layout (indentN e.o st.level)] else st) [.comment s])
        | .pi t s => pure (write (if st.offset == 0 && !e.o.indent.isEmpty then write st [.layout (indentN e.o st.level)] else st) [.pi t s])
        | .tag _ _ attrs _ =>
          if directive attrs .default == .preserve then
            emitNode e.m node >>= fun toks =>
            pure { writeToks { (if st.offset == 0 && !e.o.indent.isEmpty then write st [.layout (indentN e.o st.level)] else st) with preserveSpace := true } toks with preserveSpace := false }
          else
            lfSerializeNode e.m node (if st.offset == 0 && !e.o.indent.isEmpty then write st [.layout (indentN e.o st.level)] else st) >>= fun st =>
            pure { st with preserveSpace := false }) := by
  rw [serializeAppendableNode]
  rfl

end Delb.Wrapping
