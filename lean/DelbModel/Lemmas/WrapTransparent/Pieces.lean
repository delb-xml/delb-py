import DelbModel.Lemmas.WrapTransparent.Layout
import DelbModel.Lemmas.WrapTransparent.Gap
/-!
# C03 (width ≥ 1): what `write` appends — gap pieces (character data) and markup pieces
-/
namespace Delb.Wrapping
open Delb.Ser Delb.WS Delb.Pretty

def isGapPiece : Piece → Bool
  | .text _ => true
  | .layout _ => true
  | _ => false

def pieceStr : Piece → Str
  | .text s => s
  | .layout s => s
  | _ => []

def strs (g : List Piece) : List Str := g.map pieceStr

def gapChars (g : List Piece) : Str := (strs g).flatten

def AllGap (g : List Piece) : Prop := ∀ p ∈ g, isGapPiece p = true

def NonEmp (g : List Piece) : Prop := ∀ p ∈ g, pieceStr p ≠ []

@[simp] theorem gapChars_nil : gapChars [] = [] := rfl
@[simp] theorem gapChars_append (a b : List Piece) : gapChars (a ++ b) = gapChars a ++ gapChars b := by
  simp [gapChars, strs]
@[simp] theorem gapChars_cons (p : Piece) (g : List Piece) : gapChars (p :: g) = pieceStr p ++ gapChars g := by
  simp [gapChars, strs]
@[simp] theorem strs_append (a b : List Piece) : strs (a ++ b) = strs a ++ strs b := by simp [strs]
@[simp] theorem strs_nil : strs [] = [] := rfl

theorem allGap_nil : AllGap [] := by intro p h; simp at h
theorem allGap_append {a b : List Piece} (ha : AllGap a) (hb : AllGap b) : AllGap (a ++ b) := by
  intro p h
  rcases List.mem_append.1 h with h | h
  · exact ha p h
  · exact hb p h
theorem nonEmp_nil : NonEmp [] := by intro p h; simp at h
theorem nonEmp_append {a b : List Piece} (ha : NonEmp a) (hb : NonEmp b) : NonEmp (a ++ b) := by
  intro p h
  rcases List.mem_append.1 h with h | h
  · exact ha p h
  · exact hb p h

/-- character data as `write` appends it -/
structure IsGap (g : List Piece) : Prop where
  allGap : AllGap g
  nonEmp : NonEmp g

theorem IsGap.nil : IsGap [] := ⟨allGap_nil, nonEmp_nil⟩
theorem IsGap.append {a b : List Piece} (ha : IsGap a) (hb : IsGap b) : IsGap (a ++ b) :=
  ⟨allGap_append ha.1 hb.1, nonEmp_append ha.2 hb.2⟩

/-- the character data written since the last markup piece -/
def trailGap (out : List Piece) : Str := gapChars (out.reverse.takeWhile isGapPiece).reverse

theorem trailGap_append_gap (out g : List Piece) (hg : AllGap g) :
    trailGap (out ++ g) = trailGap out ++ gapChars g := by
  unfold trailGap
  rw [List.reverse_append]
  have : ∀ p ∈ g.reverse, isGapPiece p = true := fun p hp => hg p (List.mem_reverse.1 hp)
  rw [List.takeWhile_append_of_pos this]
  simp

theorem trailGap_markup (out : List Piece) (x : Piece) (hx : isGapPiece x = false) :
    trailGap (out ++ [x]) = [] := by
  unfold trailGap
  simp [List.reverse_append, hx]

def EndsMarkup (N : List Piece) : Prop := ∃ N' x, N = N' ++ [x] ∧ isGapPiece x = false

theorem trailGap_endsMarkup (out N : List Piece) (h : EndsMarkup N) : trailGap (out ++ N) = [] := by
  obtain ⟨N', x, rfl, hx⟩ := h
  rw [← List.append_assoc]
  exact trailGap_markup _ _ hx

theorem endsMarkup_append (a : List Piece) {b : List Piece} (h : EndsMarkup b) : EndsMarkup (a ++ b) := by
  obtain ⟨N', x, rfl, hx⟩ := h
  exact ⟨a ++ N', x, by simp, hx⟩

@[simp] theorem trailGap_nil : trailGap [] = [] := rfl

theorem eraseAll_gap : ∀ (g : List Piece), AllGap g → eraseAll g = (strs g).map Tok.chars
  | [], _ => rfl
  | p :: g, h => by
    have hp := h p (by simp)
    have ih := eraseAll_gap g (fun q hq => h q (by simp [hq]))
    cases p <;> simp_all [isGapPiece, erase, strs, pieceStr]

theorem emitKids_texts (m : Dict) : ∀ (ss : List Str), (∀ s ∈ ss, s ≠ []) →
    emitKids m (ss.map Node.text) = .ok (ss.map Tok.chars)
  | [], _ => by simp [emitKids]
  | s :: ss, h => by
    have hs : s.isEmpty = false := by
      have := h s (by simp)
      cases s <;> simp_all
    have ih := emitKids_texts m ss (fun t ht => h t (by simp [ht]))
    simp [emitKids, emitNode, hs, ih]

theorem emitKids_append (m : Dict) : ∀ (a b : List Node) (x y : List Tok), emitKids m a = .ok x →
    emitKids m b = .ok y → emitKids m (a ++ b) = .ok (x ++ y)
  | [], b, x, y, ha, hb => by
    simp [emitKids] at ha; subst ha; simpa using hb
  | k :: a, b, x, y, ha, hb => by
    obtain ⟨x1, x2, h1, h2, rfl⟩ := emitKids_cons_inv ha
    have ih := emitKids_append m a b x2 y h2 hb
    simp [emitKids, h1, ih]

theorem emitKids_single (m : Dict) (k : Node) (x : List Tok) (h : emitNode m k = .ok x) :
    emitKids m [k] = .ok x := by
  simp [emitKids, h]

theorem strs_nonEmp {g : List Piece} (h : NonEmp g) : ∀ s ∈ strs g, s ≠ [] := by
  intro s hs
  simp only [strs, List.mem_map] at hs
  obtain ⟨p, hp, rfl⟩ := hs
  exact h p hp

theorem emitKids_gap (m : Dict) {g : List Piece} (hg : IsGap g) :
    emitKids m ((strs g).map Node.text) = .ok (eraseAll g) := by
  rw [eraseAll_gap g hg.1]
  exact emitKids_texts m _ (strs_nonEmp hg.2)

theorem newOffset_ne_zero (o : Nat) (data : Str) (c : Char) (h : data.getLast? = some c) (hc : c ≠ '\n') :
    newOffset o data ≠ 0 := by
  obtain ⟨d, rfl⟩ := List.getLast?_eq_some_iff.1 h
  unfold newOffset
  split
  · simp [isNl, hc]
  · simp

theorem newOffset_zero (o : Nat) (data : Str) (hne : data ≠ []) (h : newOffset o data = 0) :
    data.getLast? = some '\n' := by
  cases hl : data.getLast? with
  | none => simp at hl; exact absurd hl hne
  | some c =>
    by_cases hc : c = '\n'
    · rw [hc]
    · exact absurd h (newOffset_ne_zero o data c hl hc)

theorem textEscapes_eq : Gen.textEscapes = textTable := by decide +kernel

theorem escapeChar_text_last (c : Char) :
    (escapeChar Gen.textEscapes c).getLast? = some '\n' → c = '\n' := by
  rw [textEscapes_eq, escapeChar_textTable]
  split
  · simp
  · split
    · simp
    · split
      · simp
      · simp

theorem escapeChar_text_ne_nil (c : Char) : escapeChar Gen.textEscapes c ≠ [] := by
  rw [textEscapes_eq, escapeChar_textTable]
  split
  · simp
  · split
    · simp
    · split <;> simp

theorem escapeText_append (a b : Str) : escapeText (a ++ b) = escapeText a ++ escapeText b := by
  simp [escapeText, escape]

theorem escapeText_ne_nil {s : Str} (h : s ≠ []) : escapeText s ≠ [] := by
  cases s with
  | nil => exact absurd rfl h
  | cons c cs =>
    simp only [escapeText, escape, List.flatMap_cons]
    intro hh
    exact escapeChar_text_ne_nil c (List.append_eq_nil_iff.1 hh).1

theorem escapeText_last {s : Str} (h : (escapeText s).getLast? = some '\n') : s.getLast? = some '\n' := by
  rcases List.eq_nil_or_concat s with rfl | ⟨xs, x, rfl⟩
  · simp [escapeText, escape] at h
  · rw [List.concat_eq_append] at h ⊢
    have hx : escapeText [x] = escapeChar Gen.textEscapes x := by simp [escapeText, escape]
    rw [escapeText_append, hx, getLast?_append_ne _ _ (escapeChar_text_ne_nil x)] at h
    rw [escapeChar_text_last x h]
    exact List.getLast?_concat

theorem renderP_append (a b : List Piece) : renderP (a ++ b) = renderP a ++ renderP b := Pretty.renderP_append a b
@[simp] theorem renderP_nil : renderP [] = [] := rfl
theorem renderP_single (p : Piece) : renderP [p] = renderPiece p := by simp

theorem renderPiece_gap_ne_nil {p : Piece} (hg : isGapPiece p = true) (hne : pieceStr p ≠ []) :
    renderPiece p ≠ [] := by
  cases p <;> simp_all [isGapPiece, pieceStr, renderPiece]
  exact escapeText_ne_nil hne

theorem renderP_gap_eq_nil {g : List Piece} (hg : AllGap g) (hne : NonEmp g) (h : renderP g = []) : g = [] := by
  cases g with
  | nil => rfl
  | cons p g =>
    exfalso
    simp only [renderP, List.flatMap_cons, List.append_eq_nil_iff] at h
    exact renderPiece_gap_ne_nil (hg p (by simp)) (hne p (by simp)) h.1

theorem render_gap_last : ∀ {g : List Piece}, AllGap g → NonEmp g →
    (renderP g).getLast? = some '\n' → (gapChars g).getLast? = some '\n' := by
  intro g
  induction g with
  | nil => intro _ _ h; simp at h
  | cons p g ih =>
    intro hg hne h
    have hp := hg p (by simp)
    have hpn := hne p (by simp)
    have hg' : AllGap g := fun q hq => hg q (by simp [hq])
    have hne' : NonEmp g := fun q hq => hne q (by simp [hq])
    by_cases hgn : g = []
    · subst hgn
      rw [renderP_single] at h
      have : (pieceStr p).getLast? = some '\n' := by
        cases p <;> simp_all [isGapPiece, pieceStr, renderPiece]
        exact escapeText_last h
      simpa [gapChars, strs] using this
    · have hr : renderP g ≠ [] := fun hh => hgn (renderP_gap_eq_nil hg' hne' hh)
      have : renderP (p :: g) = renderPiece p ++ renderP g := by simp [renderP]
      rw [this, getLast?_append_ne _ _ hr] at h
      have ih' := ih hg' hne' h
      rw [gapChars_cons]
      have hgc : gapChars g ≠ [] := by
        intro hh; rw [hh] at ih'; simp at ih'
      rw [getLast?_append_ne _ _ hgc]
      exact ih'

theorem stripNl_gapPiece {p : Piece} (hp : isGapPiece p = true) (rest : List Piece) :
    ∃ p', isGapPiece p' = true ∧ pieceStr p' = (pieceStr p).dropWhile isNl ∧
      stripNl (p :: rest) = if ((pieceStr p).dropWhile isNl).isEmpty then stripNl rest else p' :: rest := by
  cases p with
  | text s => exact ⟨.text (s.dropWhile isNl), rfl, rfl, stripNl_text s rest⟩
  | layout s => exact ⟨.layout (s.dropWhile isNl), rfl, rfl, stripNl_layout s rest⟩
  | _ => cases hp

theorem stripNl_gap : ∀ (ps : List Piece), AllGap ps →
    AllGap (stripNl ps) ∧ gapChars (stripNl ps) = (gapChars ps).dropWhile isNl := by
  intro ps
  induction ps with
  | nil => intro _; simp [stripNl, allGap_nil]
  | cons p ps ih =>
    intro h
    obtain ⟨hp, hps⟩ := List.forall_mem_cons.1 h
    obtain ⟨ih1, ih2⟩ := ih hps
    obtain ⟨p', hp', hs', heq⟩ := stripNl_gapPiece hp ps
    rw [heq, gapChars_cons]
    split
    · rename_i he
      rw [List.dropWhile_append_of_pos (dropWhile_eq_nil_all _ _ (by simpa using he))]
      exact ⟨ih1, ih2⟩
    · rename_i he
      rw [dropWhile_append_ne _ _ _ (by simpa using he), gapChars_cons, hs']
      exact ⟨List.forall_mem_cons.2 ⟨hp', hps⟩, rfl⟩

theorem isEmptyPiece_gap {p : Piece} (h : isGapPiece p = true) : isEmptyPiece p = (pieceStr p).isEmpty := by
  cases p <;> first | rfl | cases h

theorem filter_gap (ps : List Piece) (h : AllGap ps) :
    AllGap (ps.filter (fun p => !isEmptyPiece p)) ∧ NonEmp (ps.filter (fun p => !isEmptyPiece p)) ∧
    gapChars (ps.filter (fun p => !isEmptyPiece p)) = gapChars ps := by
  induction ps with
  | nil => exact ⟨allGap_nil, nonEmp_nil, rfl⟩
  | cons p ps ih =>
    obtain ⟨hp, hps⟩ := List.forall_mem_cons.1 h
    obtain ⟨i1, i2, i3⟩ := ih hps
    rw [List.filter_cons, isEmptyPiece_gap hp, gapChars_cons]
    cases he : (pieceStr p).isEmpty with
    | true =>
      rw [List.isEmpty_iff.1 he, Bool.not_true, if_neg Bool.false_ne_true]
      exact ⟨i1, i2, i3⟩
    | false =>
      rw [Bool.not_false, if_pos rfl]
      refine ⟨List.forall_mem_cons.2 ⟨hp, i1⟩, List.forall_mem_cons.2 ⟨?_, i2⟩, ?_⟩
      · intro h0; rw [h0] at he; cases he
      · rw [gapChars_cons, i3]

theorem write_gap (st : St) (ps : List Piece) (hps : AllGap ps) :
    ∃ g, (write st ps).out = st.out ++ g ∧ AllGap g ∧ NonEmp g ∧
      (gapChars g = gapChars ps ∨
        (st.offset = 0 ∧ st.preserveSpace = false ∧ gapChars g = (gapChars ps).dropWhile isNl)) ∧
      (g = [] → write st ps = st) ∧
      ((write st ps).offset = 0 → (g = [] ∧ st.offset = 0) ∨ (gapChars g).getLast? = some '\n') ∧
      (g ≠ [] → (write st ps).offset = newOffset st.offset (renderP g)) := by
  have hprep : AllGap (prep st ps) ∧ NonEmp (prep st ps) ∧
      (gapChars (prep st ps) = gapChars ps ∨
        (st.offset = 0 ∧ st.preserveSpace = false ∧ gapChars (prep st ps) = (gapChars ps).dropWhile isNl)) := by
    unfold prep
    by_cases hc : (!st.preserveSpace && st.offset == 0) = true
    · rw [if_pos hc]
      obtain ⟨s1, s2⟩ := stripNl_gap ps hps
      obtain ⟨f1, f2, f3⟩ := filter_gap _ s1
      refine ⟨f1, f2, Or.inr ⟨?_, ?_, by rw [f3, s2]⟩⟩
      · simp at hc; exact hc.2
      · simp at hc; exact hc.1
    · rw [if_neg hc]
      obtain ⟨f1, f2, f3⟩ := filter_gap _ hps
      exact ⟨f1, f2, Or.inl f3⟩
  obtain ⟨p1, p2, p3⟩ := hprep
  by_cases he : (renderP (prep st ps)).isEmpty = true
  · have hnil : prep st ps = [] := renderP_gap_eq_nil p1 p2 (by simpa using he)
    have hw : write st ps = st := by rw [write_eq, if_pos he]
    refine ⟨[], by rw [hw]; simp, allGap_nil, nonEmp_nil, ?_, fun _ => hw, ?_, fun h => absurd rfl h⟩
    · rw [hnil] at p3; exact p3
    · intro h0; rw [hw] at h0; exact Or.inl ⟨rfl, h0⟩
  · have hw : write st ps = { st with out := st.out ++ prep st ps,
                                      offset := newOffset st.offset (renderP (prep st ps)) } := by
      rw [write_eq, if_neg he]
    refine ⟨prep st ps, by rw [hw], p1, p2, p3, ?_, ?_, fun _ => by rw [hw]⟩
    · intro hg; rw [hg] at he; simp at he
    · intro h0
      rw [hw] at h0
      right
      exact render_gap_last p1 p2 (newOffset_zero _ _ (by simpa using he) h0)

def IsMk : Piece → Prop
  | .stag .. => True
  | .etag _ => True
  | .comment _ => True
  | .pi .. => True
  | _ => False

theorem isMk_notGap {x : Piece} (h : IsMk x) : isGapPiece x = false := by
  cases x <;> simp_all [IsMk, isGapPiece]

theorem renderPiece_mk_last {x : Piece} (h : IsMk x) : (renderPiece x).getLast? = some '>' := by
  cases x with
  | stag qn attrs cp sc =>
    cases sc
    · show ((['<'] ++ qn ++ renderAttrsL attrs ++ cp) ++ ['>']).getLast? = some '>'
      exact List.getLast?_concat
    · show (['<'] ++ qn ++ renderAttrsL attrs ++ cp ++ ['/', '>']).getLast? = some '>'
      rw [getLast?_append_ne _ _ (by simp)]; rfl
  | etag qn =>
    show ((['<', '/'] ++ qn) ++ ['>']).getLast? = some '>'
    exact List.getLast?_concat
  | comment s =>
    show ("<!--".toList ++ s ++ "-->".toList).getLast? = some '>'
    rw [getLast?_append_ne _ _ (by decide +kernel)]; decide +kernel
  | pi t s =>
    show ("<?".toList ++ t.toList ++ [' '] ++ s ++ "?>".toList).getLast? = some '>'
    rw [getLast?_append_ne _ _ (by decide +kernel)]; decide +kernel
  | _ => simp [IsMk] at h

theorem write_solid (st : St) (x : Piece) (hx : ∀ s, x ≠ .text s ∧ x ≠ .layout s ∧ x ≠ .verbatim [.chars s])
    (he : isEmptyPiece x = false) (hl : (renderPiece x).getLast? = some '>') :
    (write st [x]).out = st.out ++ [x] ∧ (write st [x]).offset ≠ 0 := by
  rw [write_single st x (fun _ _ => stripNl_single hx) he (by intro h; rw [h] at hl; cases hl)]
  exact ⟨rfl, newOffset_ne_zero _ _ '>' hl (by decide)⟩

theorem write_mk (st : St) (x : Piece) (hx : IsMk x) :
    (write st [x]).out = st.out ++ [x] ∧ (write st [x]).offset ≠ 0 := by
  refine write_solid st x ?_ ?_ (renderPiece_mk_last hx)
  · intro s; cases x <;> simp [IsMk] at hx <;> exact ⟨nofun, nofun, nofun⟩
  · cases x <;> simp [IsMk] at hx <;> rfl

/-- the serializer is in its normal mode -/
def Base (st : St) : Prop := st.preserveSpace = false ∧ st.space = .default

/-- at the beginning of a line the current gap ends in whitespace -/
def Off (st : St) : Prop := st.offset = 0 → lastIsSpace (trailGap st.out) = true

theorem base_write {st : St} (h : Base st) (ps : List Piece) : Base (write st ps) := by
  unfold Base at *; simpa using h

theorem lastIsSpace_of_last_nl {w : Str} (h : w.getLast? = some '\n') : lastIsSpace w = true := by
  simp [lastIsSpace, h, pyWs_nl]

theorem off_write {st : St} {ps : List Piece} (hps : AllGap ps) (ho : Off st) : Off (write st ps) := by
  obtain ⟨g, h1, h2, _, _, _, h6, _⟩ := write_gap st ps hps
  intro h0
  rw [h1, trailGap_append_gap _ _ h2]
  rcases h6 h0 with ⟨hg, hs0⟩ | hl
  · subst hg; simpa using ho hs0
  · have hne : gapChars g ≠ [] := by intro h; rw [h] at hl; simp at hl
    rw [lastIsSpace_append_ne _ _ hne]
    exact lastIsSpace_of_last_nl hl

/-- `st'` is `st` after a write of whitespace, which appended the character data `g` (or nothing) -/
structure WsStep (st st' : St) (g : List Piece) : Prop where
  out : st'.out = st.out ++ g
  gap : IsGap g
  ws : AllWs (gapChars g)
  off : Off st → Off st'
  level : st'.level = st.level
  unwritten : st'.unwritten = st.unwritten
  space : st'.space = st.space
  preserveSpace : st'.preserveSpace = st.preserveSpace

theorem WsStep.refl (st : St) : WsStep st st [] := ⟨by simp, .nil, allWs_nil, id, rfl, rfl, rfl, rfl⟩

theorem WsStep.trailGap {st st' : St} {g : List Piece} (h : WsStep st st' g) :
    trailGap st'.out = trailGap st.out ++ gapChars g := by
  rw [h.out, trailGap_append_gap _ _ h.gap.1]

theorem WsStep.base {st st' : St} {g : List Piece} (h : WsStep st st' g) (hb : Base st) : Base st' :=
  ⟨h.preserveSpace.trans hb.1, h.space.trans hb.2⟩

theorem wsStep_write (st : St) {x : Str} (hx : AllWs x) :
    ∃ g, WsStep st (write st [.layout x]) g ∧ (st.offset ≠ 0 → gapChars g = x) := by
  have hps : AllGap [Piece.layout x] := by intro p hp; simp at hp; subst hp; rfl
  obtain ⟨g, h1, h2, h3, h4, _⟩ := write_gap st [.layout x] hps
  rw [show gapChars [Piece.layout x] = x by simp [pieceStr]] at h4
  refine ⟨g, ⟨h1, ⟨h2, h3⟩, ?_, off_write hps, by simp, by simp, by simp, by simp⟩, fun ho => ?_⟩
  · rcases h4 with h4 | ⟨_, _, h4⟩
    · rw [h4]; exact hx
    · rw [h4]; exact allWs_dropWhile _ hx
  · rcases h4 with h4 | ⟨h0, _, _⟩
    · exact h4
    · exact absurd h0 ho

theorem wsStep_ite (st : St) (c : Bool) {x : Str} (hx : AllWs x) :
    ∃ g, WsStep st (if c = true then write st [.layout x] else st) g ∧ (g ≠ [] → c = true) := by
  cases c with
  | true => obtain ⟨g, hg, _⟩ := wsStep_write st hx; exact ⟨g, hg, fun _ => rfl⟩
  | false => exact ⟨[], .refl st, fun h => absurd rfl h⟩

end Delb.Wrapping
