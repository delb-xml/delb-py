import DelbModel.Lemmas.WrapTransparent.Skeleton
import DelbModel.Lemmas.Wrap
/-!
# C03 (width ≥ 1): `_serialize_text` writes character data that reduces to the text (`TextSpec`)

`Wrote st st' X`: from `st` to `st'` character data was written that `collapse` cannot tell from `X` where
it stands.  Every step of `_serialize_text` is stated as a `Wrote` (the lines of `_serialize_text_over_lines` by
their `join`); `finish_wrote` / `finish_close` turn the `Wrote` of the whole text into the `GapOK` / `GapOwed` that
`TextSpec` asks for.
-/
namespace Delb.Wrapping
open Delb.Ser Delb.WS Delb.Pretty

theorem collapseAux_true (x : Str) : collapseAux pyWs true x = ltrim pyWs (collapse pyWs x) := by
  cases x with
  | nil => rfl
  | cons c cs =>
    rw [collapse, collapseAux_cons, collapseAux_cons]
    by_cases hc : pyWs c = true
    · rw [if_pos hc, if_pos hc, if_pos rfl, if_neg (by decide), ltrim_cons, if_pos pyWs_space,
        ltrim_of_headNonWs _ _ (collapseAux_true_head pyWs cs)]
    · rw [if_neg hc, if_neg hc, ltrim_cons, if_neg hc]

theorem collapse_congr_left (p : Str) {x y : Str} (h : collapse pyWs x = collapse pyWs y) :
    collapse pyWs (p ++ x) = collapse pyWs (p ++ y) := by
  rw [collapse_append, collapse_append]
  cases lastIsSpace (collapse pyWs p)
  · rw [← collapse, h]; rfl
  · rw [collapseAux_true, collapseAux_true, h]

theorem collapse_congr {a a' x y : Str} (ha : collapse pyWs a = collapse pyWs a')
    (h : collapse pyWs x = collapse pyWs y) : collapse pyWs (a ++ x) = collapse pyWs (a' ++ y) :=
  (collapse_congr_right ha x).trans (collapse_congr_left a' h)

theorem collapse_ws {W : Str} (hW : AllWs W) (hne : W ≠ []) : collapse pyWs W = [' '] :=
  collapseAux_false_ws_ne W hW hne

theorem collapse_ws_eq {W W' : Str} (hW : AllWs W) (hne : W ≠ []) (hW' : AllWs W') (hne' : W' ≠ []) :
    collapse pyWs W = collapse pyWs W' :=
  (collapse_ws hW hne).trans (collapse_ws hW' hne').symm

theorem collapse_absorb {p W : Str} (hp : lastIsSpace p = true) (hW : AllWs W) :
    collapse pyWs (p ++ W) = collapse pyWs p := by
  rw [collapse_append, lastIsSpace_collapse, hp, collapseAux_allWs pyWs W hW, List.append_nil]

theorem collapse_dropWhile {p : Str} (f : Char → Bool) (hf : ∀ c, f c = true → pyWs c = true) (x : Str)
    (hp : lastIsSpace p = true) : collapse pyWs (p ++ x.dropWhile f) = collapse pyWs (p ++ x) := by
  have hW : AllWs (x.takeWhile f) := fun c hc => hf c (List.all_eq_true.1 List.all_takeWhile c hc)
  rw [← collapse_congr_right (collapse_absorb hp hW), List.append_assoc, List.takeWhile_append_dropWhile]

theorem collapse_rtrim (x : Str) {Z : Str} (hZ : AllWs Z) (hne : Z ≠ []) :
    collapse pyWs (rtrim pyWs x ++ Z) = collapse pyWs (x ++ Z) := by
  obtain ⟨post, hpost, hx⟩ := rtrim_decomp pyWs x
  conv => rhs; rw [hx, List.append_assoc]
  exact collapse_congr_left _ (collapse_ws_eq hZ hne (allWs_append hpost hZ) (by simp [hne]))

theorem entities_nonWs : ∀ p ∈ entities, pyWs p.2 = false ∧ ∀ d ∈ p.1, pyWs d = false := by
  rw [entities_eq]; decide +kernel

theorem escapeChar_ws {c : Char} (h : pyWs c = true) : escapeChar Gen.textEscapes c = [c] :=
  (entityTable_text c).elim And.left fun hc => absurd h (by rw [(entities_nonWs _ hc).1]; decide)

theorem escapeChar_nonws {c : Char} (h : pyWs c = false) : ∀ d ∈ escapeChar Gen.textEscapes c, pyWs d = false := by
  rcases entityTable_text c with ⟨hc, _⟩ | hc
  · intro d hd
    rw [textEscapes_eq, hc, List.mem_singleton] at hd
    rw [hd]; exact h
  · exact (entities_nonWs _ hc).2

theorem escapeText_cons (c : Char) (s : Str) : escapeText (c :: s) = escapeChar Gen.textEscapes c ++ escapeText s :=
  escape_cons _ c s

@[simp] theorem escapeText_nil : escapeText [] = [] := rfl

theorem escapeText_allWs {W : Str} (h : AllWs W) : escapeText W = W := by
  induction W with
  | nil => rfl
  | cons c W ih =>
    rw [escapeText_cons, escapeChar_ws (h c (by simp)), ih (fun d hd => h d (by simp [hd]))]; rfl

theorem escapeText_cons_space (t : Str) : escapeText (' ' :: t) = ' ' :: escapeText t := by
  rw [escapeText_cons, escapeChar_ws pyWs_space]; rfl

theorem escapeText_space (a b : Str) : escapeText (a ++ ' ' :: b) = escapeText a ++ ' ' :: escapeText b := by
  rw [escapeText_append, escapeText_cons_space]

theorem escapeText_no_nl {s : Str} (h : '\n' ∉ s) : '\n' ∉ escapeText s :=
  fun hm => (mem_escapeText hm).elim h (by rw [entities_eq]; decide +kernel)

theorem ltrim_escapeText (s : Str) : ltrim pyWs (escapeText s) = escapeText (ltrim pyWs s) := by
  induction s with
  | nil => rfl
  | cons c s ih =>
    rw [escapeText_cons, ltrim_cons]
    by_cases hc : pyWs c = true
    · rw [escapeChar_ws hc, if_pos hc, ← ih, List.singleton_append, ltrim_cons, if_pos hc]
    · rw [if_neg hc, escapeText_cons]
      exact ltrim_of_headNonWs _ _ (headNonWs_append _ _ _ (escapeChar_text_ne_nil c)
        (fun a ha => escapeChar_nonws (by simpa using hc) a (List.mem_of_mem_head? ha)))

theorem lastNonWs_escapeText {s : Str} (h : LastNonWs pyWs s) : LastNonWs pyWs (escapeText s) := by
  rcases List.eq_nil_or_concat s with rfl | ⟨s, c, rfl⟩
  · exact h
  · rw [List.concat_eq_append] at h ⊢
    rw [escapeText_append, escapeText_cons, escapeText_nil, List.append_nil]
    exact lastNonWs_append _ _ _ (escapeChar_text_ne_nil c)
      (fun a ha => escapeChar_nonws (h c (by simp)) a (List.mem_of_getLast? ha))

theorem rtrim_escapeText (s : Str) : rtrim pyWs (escapeText s) = escapeText (rtrim pyWs s) := by
  obtain ⟨post, hpost, hs⟩ := rtrim_decomp pyWs s
  conv => lhs; rw [hs]
  rw [escapeText_append, escapeText_allWs hpost, rtrim_append_of_all _ _ _ hpost]
  exact rtrim_of_lastNonWs _ _ (lastNonWs_escapeText (rtrim_lastNonWs _ _))

theorem escapeText_eq_nil {s : Str} (h : escapeText s = []) : s = [] :=
  Decidable.byContradiction fun hs => escapeText_ne_nil hs h

theorem isEmpty_escapeText (l : Str) : (escapeText l).isEmpty = l.isEmpty := by
  cases l with
  | nil => rfl
  | cons c l => exact List.isEmpty_eq_false_iff.2 (escapeText_ne_nil (List.cons_ne_nil c l))

theorem escapeText_split (s : Str) : ∀ (i : Nat), (escapeText s)[i]? = some ' ' →
    ∃ a b, s = a ++ ' ' :: b ∧ (escapeText s).take i = escapeText a ∧ (escapeText s).drop (i + 1) = escapeText b := by
  induction s with
  | nil => intro i h; cases h
  | cons c s ih =>
    intro i h
    rw [escapeText_cons] at h ⊢
    rw [List.getElem?_append] at h
    by_cases hi : i < (escapeChar Gen.textEscapes c).length
    · rw [if_pos hi] at h
      by_cases hc : pyWs c = true
      · rw [escapeChar_ws hc] at h hi ⊢
        obtain rfl : i = 0 := Nat.lt_one_iff.1 hi
        cases h; exact ⟨[], s, rfl, rfl, rfl⟩
      · have := escapeChar_nonws (Bool.eq_false_iff.2 hc) ' ' (List.mem_of_getElem? h)
        rw [pyWs_space] at this; cases this
    · rw [if_neg hi] at h
      have hi := Nat.le_of_not_lt hi
      obtain ⟨a, b, hs, h1, h2⟩ := ih _ h
      refine ⟨c :: a, b, congrArg _ hs, ?_, ?_⟩
      · rw [List.take_append, List.take_of_length_le hi, h1, escapeText_cons]
      · rw [List.drop_append, List.drop_of_length_le (Nat.le_succ_of_le hi), List.nil_append,
          Nat.sub_add_comm hi, h2]

theorem escapeText_head_space {s : Str} (h : (escapeText s).head? = some ' ') : ∃ s1, s = ' ' :: s1 := by
  obtain ⟨a, b, hs, ha, _⟩ := escapeText_split s 0 (by rw [← List.head?_eq_getElem?]; exact h)
  rw [hs, escapeText_eq_nil ha.symm]; exact ⟨b, rfl⟩

theorem escapeText_eq_space {s : Str} (h : escapeText s = [' ']) : s = [' '] := by
  obtain ⟨s1, rfl⟩ := escapeText_head_space (by rw [h]; rfl)
  rw [escapeText_cons_space] at h
  rw [escapeText_eq_nil (List.cons.inj h).2]

/-! ## `_wrap_text` on escaped text -/

theorem wrap_esc_step (w fuel : Nat) (x : Str) :
    Wrap.wrap w (fuel+1) (escapeText x) = (if x = [] then [] else [escapeText x]) ∨
    ∃ a b, x = a ++ ' ' :: b ∧ w < (escapeText x).length ∧
      Wrap.wrap w (fuel+1) (escapeText x) = escapeText a :: Wrap.wrap w fuel (escapeText b) := by
  rcases Wrap.wrap_step w fuel (escapeText x) with h | ⟨i, hlong, _, hsp, h⟩
  · left
    rw [h]
    by_cases hx : x = []
    · subst hx; rfl
    · rw [if_neg hx, if_neg (mt escapeText_eq_nil hx)]
  · obtain ⟨a, b, hx, h1, h2⟩ := escapeText_split x i hsp
    exact Or.inr ⟨a, b, hx, hlong, by rw [h, h1, h2]⟩

/-- the lines are the parts, joined by single spaces; a trailing space may be swallowed when the last
    line is full -/
def WrapRel (w : Nat) (x : Str) (parts : List Str) : Prop :=
  Wrap.join parts = x ∨
    (x = Wrap.join parts ++ [' '] ∧ ∃ l, parts.getLast? = some l ∧ w ≤ (escapeText l).length)

theorem wrap_esc (w : Nat) : ∀ (fuel : Nat) (x : Str), (escapeText x).length < fuel →
    ∃ parts, Wrap.wrap w fuel (escapeText x) = parts.map escapeText ∧ WrapRel w x parts ∧ (x ≠ [] → parts ≠ []) := by
  intro fuel
  induction fuel with
  | zero => exact fun x h => absurd h (Nat.not_lt_zero _)
  | succ fuel ih =>
    intro x hf
    rcases wrap_esc_step w fuel x with h | ⟨a, b, hx, hlong, h⟩
    · rw [h]
      by_cases hx : x = []
      · exact ⟨[], by rw [if_pos hx]; rfl, Or.inl hx.symm, fun h => absurd hx h⟩
      · exact ⟨[x], by rw [if_neg hx]; rfl, Or.inl rfl, fun _ => List.cons_ne_nil _ _⟩
    · have hlen : (escapeText x).length = (escapeText a).length + ((escapeText b).length + 1) := by
        rw [hx, escapeText_space, List.length_append]; rfl
      rw [hlen] at hf hlong
      obtain ⟨pb, hpb, hrel, hne⟩ := ih b (Nat.lt_of_succ_lt_succ (Nat.lt_of_le_of_lt (Nat.le_add_left _ _) hf))
      refine ⟨a :: pb, by rw [h, hpb]; rfl, ?_, fun _ => List.cons_ne_nil _ _⟩
      by_cases hp : pb = []
      · -- the space is the last character: it is swallowed
        have hb : b = [] := Decidable.byContradiction fun hb => hne hb hp
        subst hp hb
        exact Or.inr ⟨hx, a, rfl, Nat.le_of_lt_succ hlong⟩
      · obtain ⟨p0, ps, rfl⟩ := List.exists_cons_of_ne_nil hp
        rw [WrapRel, Wrap.join_cons_ne _ _ hp, List.getLast?_cons_cons, hx]
        rcases hrel with hj | ⟨hj, hl⟩
        · exact Or.inl (by rw [hj])
        · exact Or.inr ⟨by rw [hj, List.append_assoc]; rfl, hl⟩

theorem wrapText_esc (w : Nat) (x : Str) :
    ∃ parts, Wrap.wrapText w (escapeText x) = parts.map escapeText ∧ WrapRel w x parts ∧ (x ≠ [] → parts ≠ []) :=
  wrap_esc w _ x (Nat.lt_succ_self _)

/-- `st'` is `st` after writing character data that is, up to whitespace that `collapse` ignores,
    the string `X` -/
def Wrote (st st' : St) (X : Str) : Prop :=
  ∃ g, st'.out = st.out ++ g ∧ AllGap g ∧ NonEmp g ∧
    collapse pyWs (trailGap st.out ++ gapChars g) = collapse pyWs (trailGap st.out ++ X) ∧
    Base st' ∧ Off st' ∧ st'.level = st.level ∧ st'.unwritten = st.unwritten

section
variable {st st' : St} {X : Str} (h : Wrote st st' X)
include h
theorem Wrote.base : Base st' := h.elim fun _ h => h.2.2.2.2.1
theorem Wrote.off : Off st' := h.elim fun _ h => h.2.2.2.2.2.1
theorem Wrote.level : st'.level = st.level := h.elim fun _ h => h.2.2.2.2.2.2.1
theorem Wrote.unwritten : st'.unwritten = st.unwritten := h.elim fun _ h => h.2.2.2.2.2.2.2
end

theorem Wrote.refl {st : St} (hb : Base st) (ho : Off st) : Wrote st st [] :=
  ⟨[], by simp, allGap_nil, nonEmp_nil, by simp, hb, ho, rfl, rfl⟩

theorem Wrote.trans {st st1 st2 : St} {X Y : Str} (h1 : Wrote st st1 X) (h2 : Wrote st1 st2 Y) :
    Wrote st st2 (X ++ Y) := by
  obtain ⟨g1, a1, a2, a3, a4, _, _, a7, a8⟩ := h1
  obtain ⟨g2, b1, b2, b3, b4, b5, b6, b7, b8⟩ := h2
  refine ⟨g1 ++ g2, by rw [b1, a1, List.append_assoc], allGap_append a2 b2, nonEmp_append a3 b3, ?_, b5, b6,
    b7.trans a7, b8.trans a8⟩
  rw [a1, trailGap_append_gap _ _ a2] at b4
  rw [gapChars_append, ← List.append_assoc, b4, ← List.append_assoc]
  exact collapse_congr_right a4 Y

theorem allGap_cons {p : Piece} {g : List Piece} (hp : isGapPiece p = true) (hg : AllGap g) : AllGap (p :: g) :=
  List.forall_mem_cons.2 ⟨hp, hg⟩

theorem Wrote.write {st : St} (hb : Base st) (ho : Off st) {ps : List Piece} (hps : AllGap ps) {X : Str}
    (hX : gapChars ps = X) : Wrote st (write st ps) X := by
  subst hX
  obtain ⟨g, g1, g2, g3, g4, g5, g6, _⟩ := write_gap st ps hps
  refine ⟨g, g1, g2, g3, ?_, base_write hb _, ?_, write_level st ps, write_unwritten st ps⟩
  · rcases g4 with h | ⟨h0, _, h⟩
    · rw [h]
    · rw [h]
      exact collapse_dropWhile isNl (fun c hc => by rw [isNl, beq_iff_eq] at hc; rw [hc]; exact pyWs_nl) _ (ho h0)
  · intro h0
    rw [g1, trailGap_append_gap _ _ g2]
    rcases g6 h0 with ⟨hg, hs0⟩ | hl
    · subst hg; simpa using ho hs0
    · have hne : gapChars g ≠ [] := by intro h; rw [h] at hl; simp at hl
      rw [lastIsSpace_append_ne _ _ hne]
      exact lastIsSpace_of_last_nl hl

theorem Wrote.congr {st st' : St} {X Y : Str}
    (h : Wrote st st' X) (hxy : collapse pyWs (trailGap st.out ++ X) = collapse pyWs (trailGap st.out ++ Y)) :
    Wrote st st' Y := by
  obtain ⟨g, a1, a2, a3, a4, a5, a6, a7, a8⟩ := h
  exact ⟨g, a1, a2, a3, a4.trans hxy, a5, a6, a7, a8⟩

theorem Wrote.trailGap {st st' : St} {X : Str} (h : Wrote st st' X) :
    collapse pyWs (trailGap st'.out) = collapse pyWs (trailGap st.out ++ X) := by
  obtain ⟨g, a1, a2, _, a4, _⟩ := h
  rw [a1, trailGap_append_gap _ _ a2, a4]

theorem textPiece_esc (l : Str) : textPiece (escapeText l) = .text l :=
  congrArg Piece.text (unescape_escape_text l)

/-- the characters `_serialize_text_over_lines` writes for a line that is not the last … -/
def lineChars (pre l : Str) : Str := if l.isEmpty then ['\n'] else pre ++ (l ++ ['\n'])

/-- … and for the last line -/
def lastChars (pre l : Str) : Str := if l.isEmpty then [] else pre ++ l

def bodyChars (pre : Str) (L : List Str) : Str := (L.map (lineChars pre)).flatten

theorem bodyChars_cons (pre l : Str) (L : List Str) : bodyChars pre (l :: L) = lineChars pre l ++ bodyChars pre L :=
  rfl

theorem writeLines_wrote (pre : Str) (L : List Str) : ∀ st : St, Base st → Off st →
    Wrote st (writeLines pre st (L.map escapeText)) (bodyChars pre L) := by
  induction L with
  | nil => exact fun st hb ho => Wrote.refl hb ho
  | cons l L ih =>
    intro st hb ho
    have hstep : Wrote st (if l.isEmpty = true then write st [nl] else write st [.layout pre, .text l, nl])
        (lineChars pre l) := by
      unfold lineChars
      by_cases hl : l.isEmpty = true
      · rw [if_pos hl, if_pos hl]; exact Wrote.write hb ho (allGap_cons rfl allGap_nil) rfl
      · rw [if_neg hl, if_neg hl]
        exact Wrote.write hb ho (allGap_cons rfl (allGap_cons rfl (allGap_cons rfl allGap_nil))) rfl
    have := hstep.trans (ih _ hstep.base hstep.off)
    simpa only [List.map_cons, writeLines, List.foldl_cons, isEmpty_escapeText, textPiece_esc, bodyChars_cons]
      using this

theorem lines_wrote (pre : Str) (init : List Str) (last : Str) {st : St} (hb : Base st) (ho : Off st) :
    Wrote st (if last.isEmpty = true then writeLines pre st (init.map escapeText)
        else write (writeLines pre st (init.map escapeText)) [.layout pre, .text last])
      (bodyChars pre init ++ lastChars pre last) := by
  have hw := writeLines_wrote pre init st hb ho
  unfold lastChars
  by_cases hl : last.isEmpty = true
  · rw [if_pos hl, if_pos hl, List.append_nil]; exact hw
  · rw [if_neg hl, if_neg hl]
    exact hw.trans (Wrote.write hw.base hw.off (allGap_cons rfl (allGap_cons rfl allGap_nil))
      (congrArg (_ ++ ·) (List.append_nil last)))

/-! ## `_consolidate_text_lines` -/

/-- the last step of `_consolidate_text_lines` -/
def fixTail (L : List Str) : List Str :=
  match L.reverse with
  | [] :: l :: rest => rest.reverse ++ [rtrim pyWs l, []]
  | _ => L

def addIf (c : Bool) (L : List Str) : List Str := if c then L ++ [[]] else L
def dropIf (c : Bool) (L : List Str) : List Str := if c then L.drop 1 else L

/-- `_consolidate_text_lines`; `la`: `last_node` is the last child and whitespace is legit after it,
    `z`: `writer.offset == 0` -/
def consol (la z : Bool) (L : List Str) : List Str :=
  fixTail (dropIf (z && (L.head?.getD []).isEmpty) (addIf ((L.head?.getD []).isEmpty && la) L))

theorem consolidate_eq (e : Env) (st : St) (lastNode : Path) (f : Str) (rest : List Str)
    (hl : st.unwritten.getLast? = some lastNode) :
    consolidateTextLines e st (f :: rest) =
      .ok (consol (isLastChild e.root lastNode && legitAfter e.root lastNode) (st.offset == 0) (f :: rest)) := by
  have key : ∀ X : List Str, (match X.reverse with
      | [] :: l :: rest => (pure (rest.reverse ++ [rtrim pyWs l, []]) : Except Err (List Str))
      | _ => pure X) = .ok (fixTail X) := by
    intro X
    unfold fixTail
    split <;> rfl
  unfold consolidateTextLines consol addIf dropIf
  simp only [hl, List.head?_cons, Option.getD_some, Bool.and_assoc]
  exact key _

theorem fixTail_map (L : List Str) : fixTail (L.map escapeText) = (fixTail L).map escapeText := by
  unfold fixTail
  rw [← List.map_reverse]
  cases hr : L.reverse with
  | nil => rfl
  | cons a r =>
    cases a with
    | nil =>
      cases r with
      | nil => rfl
      | cons b r' => simp [rtrim_escapeText, List.map_reverse]
    | cons c cs =>
      obtain ⟨x, xs, hx⟩ := List.exists_cons_of_ne_nil (escapeText_ne_nil (List.cons_ne_nil c cs))
      simp only [List.map_cons, hx]

theorem consol_map (la z : Bool) (L : List Str) :
    consol la z (L.map escapeText) = (consol la z L).map escapeText := by
  have hh : ((L.map escapeText).head?.getD []).isEmpty = (L.head?.getD []).isEmpty := by
    cases L with
    | nil => rfl
    | cons f r => exact isEmpty_escapeText f
  unfold consol addIf dropIf
  rw [hh, ← fixTail_map]
  congr 1
  cases z && (L.head?.getD []).isEmpty <;> cases (L.head?.getD []).isEmpty && la <;> simp

theorem consolidate_map (e : Env) (st : St) (lastNode : Path) (L : List Str)
    (hl : st.unwritten.getLast? = some lastNode) (hne : L ≠ []) :
    consolidateTextLines e st (L.map escapeText) =
      .ok ((consol (isLastChild e.root lastNode && legitAfter e.root lastNode) (st.offset == 0) L).map escapeText) := by
  obtain ⟨f, rest, rfl⟩ := List.exists_cons_of_ne_nil hne
  rw [List.map_cons, consolidate_eq e st lastNode _ _ hl, ← List.map_cons, consol_map]

theorem fixTail_cases (L : List Str) :
    (∃ R l, L = R ++ [l, []] ∧ fixTail L = R ++ [rtrim pyWs l, []]) ∨ fixTail L = L := by
  unfold fixTail
  split
  · rename_i l rest hr
    refine Or.inl ⟨rest.reverse, l, ?_, rfl⟩
    rw [← List.reverse_reverse L, hr, List.reverse_cons, List.reverse_cons, List.append_assoc]; rfl
  · exact Or.inr rfl

theorem fixTail_join (L : List Str) (P : Str) :
    collapse pyWs (P ++ Wrap.join (fixTail L)) = collapse pyWs (P ++ Wrap.join L) := by
  rcases fixTail_cases L with ⟨R, l, rfl, h⟩ | h <;> rw [h]
  obtain ⟨p, hp⟩ := Wrap.join_snoc R
  rw [List.append_cons R l, List.append_cons R, Wrap.join_append_singleton _ [] (List.concat_ne_nil _ _),
    Wrap.join_append_singleton _ [] (List.concat_ne_nil _ _), hp, hp, List.append_assoc, List.append_assoc]
  exact collapse_congr_left P (collapse_congr_left p (collapse_rtrim l allWs_space (List.cons_ne_nil _ _)))

theorem fixTail_head {L : List Str} (h : L.head? = some []) : (fixTail L).head? = some [] := by
  rcases fixTail_cases L with ⟨R, l, rfl, h'⟩ | h' <;> rw [h']
  · cases R with
    | nil => cases h; rfl
    | cons a R => exact h
  · exact h

theorem fixTail_last {L : List Str} {x : Str} (h : L.getLast? = some x) (hx : x ≠ []) : fixTail L = L := by
  rcases fixTail_cases L with ⟨R, l, rfl, _⟩ | h'
  · rw [List.append_cons R l, List.getLast?_concat] at h
    exact absurd (Option.some.inj h).symm hx
  · exact h'

theorem join_addIf (c : Bool) (L : List Str) (h : L ≠ []) :
    Wrap.join (addIf c L) = Wrap.join L ++ (if c then [' '] else []) := by
  cases c
  · exact (List.append_nil _).symm
  · exact Wrap.join_append_singleton L [] h

theorem join_dropIf (c : Bool) (L : List Str) {P : Str} (h : c = true → lastIsSpace P = true ∧ L.head? = some []) :
    collapse pyWs (P ++ Wrap.join (dropIf c L)) = collapse pyWs (P ++ Wrap.join L) := by
  cases c
  · rfl
  · obtain ⟨hP, hL⟩ := h rfl
    obtain ⟨rest, rfl⟩ : ∃ rest, L = [] :: rest := by
      cases L with
      | nil => cases hL
      | cons a rest => cases hL; exact ⟨rest, rfl⟩
    by_cases hr : rest = []
    · subst hr; rfl
    · rw [Wrap.join_cons_ne [] _ hr]
      exact (collapse_congr_right (collapse_absorb hP allWs_space) (Wrap.join rest)).symm.trans
        (by rw [List.append_assoc]; rfl)

theorem consol_join (la z : Bool) (L : List Str) (hne : L ≠ []) (P : Str) (hP : z = true → lastIsSpace P = true) :
    ∃ Z, AllWs Z ∧ (Z ≠ [] → la = true) ∧ (Z = [] → consol la z L = consol false z L) ∧
      collapse pyWs (P ++ Wrap.join (consol la z L)) = collapse pyWs (P ++ (Wrap.join L ++ Z)) := by
  obtain ⟨f, rest, rfl⟩ := List.exists_cons_of_ne_nil hne
  refine ⟨if (f.isEmpty && la) = true then [' '] else [], allWs_ite allWs_space allWs_nil, ?_, ?_, ?_⟩
  · intro h
    cases hc : f.isEmpty && la
    · rw [hc] at h; exact absurd rfl h
    · exact (Bool.and_eq_true _ _ ▸ hc).2
  · intro h
    cases hc : f.isEmpty && la
    · unfold consol; simp [hc]
    · rw [hc] at h; cases h
  · unfold consol
    rw [fixTail_join, join_dropIf, join_addIf _ _ hne]
    · rfl
    · intro hd
      rw [List.head?_cons, Option.getD_some, Bool.and_eq_true] at hd
      refine ⟨hP hd.1, ?_⟩
      rw [List.isEmpty_iff.1 hd.2]
      unfold addIf; split <;> rfl

theorem consol_last (z : Bool) {L : List Str} {x : Str} (h : L.getLast? = some x) (hx : x ≠ []) :
    (consol false z L).getLast? = some x := by
  obtain ⟨init, rfl⟩ := List.getLast?_eq_some_iff.1 h
  unfold consol addIf dropIf
  rw [Bool.and_false, if_neg Bool.false_ne_true]
  by_cases hc : (z && ((init ++ [x]).head?.getD []).isEmpty) = true
  · rw [if_pos hc]
    cases init with
    | nil => exact absurd (List.isEmpty_iff.1 (Bool.and_eq_true_iff.1 hc).2) hx
    | cons a init =>
      have hl : ((a :: init ++ [x]).drop 1).getLast? = some x := List.getLast?_concat
      rw [fixTail_last hl hx, hl]
  · rw [if_neg hc, fixTail_last h hx, h]

theorem consol_head (la : Bool) {L : List Str} (h : L.head? = some []) : (consol la false L).head? = some [] := by
  unfold consol dropIf
  rw [Bool.false_and, if_neg Bool.false_ne_true]
  apply fixTail_head
  unfold addIf
  split
  · rw [List.head?_append, h]; rfl
  · exact h

theorem lastIsSpace_snoc_nl (P : Str) : lastIsSpace (P ++ ['\n']) = true := by
  rw [lastIsSpace_concat]; exact pyWs_nl

theorem lastIsSpace_lineChars (P pre l : Str) : lastIsSpace (P ++ lineChars pre l) = true := by
  unfold lineChars
  split
  · exact lastIsSpace_snoc_nl P
  · rw [← List.append_assoc, ← List.append_assoc]; exact lastIsSpace_snoc_nl _

theorem collapse_lineChars {pre : Str} (hpre : AllWs pre) (l P : Str) (h : l = [] ∨ lastIsSpace P = true) :
    collapse pyWs (P ++ lineChars pre l) = collapse pyWs (P ++ (l ++ [' '])) := by
  have hnl := collapse_ws_eq allWs_nl (List.cons_ne_nil _ _) allWs_space (List.cons_ne_nil _ _)
  unfold lineChars
  by_cases hl : l = []
  · subst hl; exact collapse_congr_left P hnl
  · rw [if_neg (by simpa using hl), ← List.append_assoc P]
    exact collapse_congr (collapse_absorb (h.resolve_left hl) hpre) (collapse_congr_left l hnl)

theorem lines_join {pre : Str} (hpre : AllWs pre) (init : List Str) (last : Str) : ∀ P : Str,
    ((init ++ [last]).head? = some [] ∨ lastIsSpace P = true) →
    collapse pyWs (P ++ (bodyChars pre init ++ lastChars pre last)) =
      collapse pyWs (P ++ Wrap.join (init ++ [last])) := by
  induction init with
  | nil =>
    intro P h
    show collapse pyWs (P ++ lastChars pre last) = collapse pyWs (P ++ last)
    rw [lastChars]
    by_cases hl : last = []
    · rw [hl]; rfl
    · rw [if_neg (mt List.isEmpty_iff.1 hl), ← List.append_assoc]
      exact collapse_congr_right (collapse_absorb (h.resolve_left fun h' => hl (Option.some.inj h')) hpre) last
  | cons l init ih =>
    intro P h
    rw [List.cons_append, Wrap.join_cons_ne _ _ (List.append_ne_nil_of_right_ne_nil _ (List.cons_ne_nil _ _)),
      bodyChars_cons, List.append_assoc, ← List.append_assoc P, ih _ (Or.inr (lastIsSpace_lineChars P pre l))]
    exact (collapse_congr_right (collapse_lineChars hpre l P (h.imp_left Option.some.inj)) _).trans
      (by rw [List.append_assoc, List.append_assoc]; rfl)

theorem newOffset_no_nl (o : Nat) (data : Str) (h : '\n' ∉ data) : newOffset o data = o + data.length := by
  unfold newOffset
  rw [if_neg]
  intro hany
  obtain ⟨c, hc, hn⟩ := List.any_eq_true.1 hany
  rw [isNl, beq_iff_eq] at hn
  exact h (hn ▸ hc)

theorem isEmptyPiece_text (s : Str) : isEmptyPiece (.text s) = s.isEmpty := rfl
theorem isEmptyPiece_layout (s : Str) : isEmptyPiece (.layout s) = s.isEmpty := rfl

theorem render_prep_line (st : St) (pre l : Str) (hpre : '\n' ∉ pre) (hl : '\n' ∉ l) (hne : l ≠ []) :
    renderP (prep st [.layout pre, .text l]) = pre ++ escapeText l := by
  have hle : l.isEmpty = false := by simpa using hne
  have hstrip : stripNl [.layout pre, .text l] = if pre.isEmpty then [.text l] else [.layout pre, .text l] := by
    rw [stripNl_layout, dropWhile_isNl_id hpre]
    split
    · rw [stripNl_text, dropWhile_isNl_id hl, hle]; rfl
    · rfl
  have hf : ∀ c : Bool, renderP ((if c = true then stripNl [.layout pre, .text l] else [.layout pre, .text l]).filter
      (fun p => !isEmptyPiece p)) = pre ++ escapeText l := by
    intro c
    rw [hstrip]
    by_cases hp : pre = []
    · subst hp
      cases c <;> simp [isEmptyPiece_text, isEmptyPiece_layout, hle, renderPiece]
    · have hpe : pre.isEmpty = false := by simpa using hp
      cases c <;> simp [hpe, isEmptyPiece_text, isEmptyPiece_layout, hle, renderPiece]
  exact hf _

theorem write_line_offset (st : St) (pre l : Str) (hpre : '\n' ∉ pre) (hl : '\n' ∉ l) (hne : l ≠ []) :
    (write st [.layout pre, .text l]).offset = st.offset + (pre.length + (escapeText l).length) := by
  have hr := render_prep_line st pre l hpre hl hne
  have hnn : pre ++ escapeText l ≠ [] := fun h => escapeText_ne_nil hne (List.append_eq_nil_iff.1 h).2
  rw [write_eq, hr, if_neg (by simpa using hnn)]
  show newOffset st.offset (pre ++ escapeText l) = _
  rw [newOffset_no_nl _ _ (by simp [hpre, escapeText_no_nl hl]), List.length_append]

theorem length_indentN (o : Opts) (n : Nat) : (indentN o n).length = n * o.indent.length := by
  unfold indentN
  induction n with
  | zero => simp
  | succ n ih => simp [List.replicate_succ, ih, Nat.succ_mul, Nat.add_comm]

theorem indentN_no_nl (o : Opts) (h : '\n' ∉ o.indent) (n : Nat) : '\n' ∉ indentN o n := by
  unfold indentN
  simp only [List.mem_flatten, List.mem_replicate, not_exists, not_and]
  intro l ⟨_, hl⟩ hmem
  subst hl; exact h hmem

theorem full_of_lineOffset {e : Env} {st : St} (hw : 1 ≤ e.width) (h : (e.width : Int) ≤ lineOffset e st) :
    availableSpace e st = 0 ∧ lineOffset e st > 0 :=
  ⟨Int.toNat_eq_zero.2 (Int.sub_nonpos_of_le h), Int.lt_of_lt_of_le (Int.natCast_pos.2 hw) h⟩

theorem full_of_offset {e : Env} {st : St} (hw : 1 ≤ e.width)
    (h : st.level * e.o.indent.length + e.width ≤ st.offset) : availableSpace e st = 0 ∧ lineOffset e st > 0 := by
  refine full_of_lineOffset hw ?_
  have h0 : st.offset ≠ 0 := Nat.ne_of_gt (Nat.lt_of_lt_of_le hw (Nat.le_trans (Nat.le_add_left _ _) h))
  rw [lineOffset, if_pos (bne_iff_ne.2 h0)]
  exact Int.le_sub_left_of_add_le (by exact_mod_cast h)

theorem le_of_availableSpace_le {e : Env} {st : St} {n : Nat} (h0 : st.offset ≠ 0) (h : availableSpace e st ≤ n) :
    st.level * e.o.indent.length + e.width ≤ st.offset + n := by
  rw [availableSpace, lineOffset, if_pos (bne_iff_ne.2 h0), Int.toNat_le] at h
  generalize st.level * e.o.indent.length = k at h ⊢
  omega

/-! ## `_serialize_text_over_lines`, from the lines on -/

section
variable (e : Env) (hind : AllWs e.o.indent) (hnl : '\n' ∉ e.o.indent)
include hind hnl

/-- what `_serialize_text_over_lines` writes for the lines `L`: their `join` and maybe whitespace behind it,
    where that is legit; after a last line that is not empty the offset is at least its width -/
def LinesPost (e : Env) (tp : Path) (st : St) (L : List Str) (st' : St) : Prop :=
  ∃ Z, AllWs Z ∧ (Z ≠ [] → legitAfter e.root tp = true) ∧ Wrote st st' (Wrap.join L ++ Z) ∧
    (Z = [] → ∀ x, L.getLast? = some x → x ≠ [] → '\n' ∉ x →
      (indentN e.o st.level).length + (escapeText x).length ≤ st'.offset)

theorem linesK_spec (st : St) (tp : Path) (L : List Str) (hl : st.unwritten.getLast? = some tp)
    (hne : L ≠ []) (hb : Base st) (ho : Off st) (hhead : st.offset ≠ 0 → L.head? = some []) :
    Post (linesK e st (L.map escapeText)) (LinesPost e tp st L) := by
  have hpre := allWs_indentN e.o hind st.level
  obtain ⟨Z, z1, z2, z3, z4⟩ := consol_join (isLastChild e.root tp && legitAfter e.root tp) (st.offset == 0) L hne
    (trailGap st.out) (fun h => ho (beq_iff_eq.1 h))
  have hhd : (consol (isLastChild e.root tp && legitAfter e.root tp) (st.offset == 0) L).head? = some [] ∨
      lastIsSpace (trailGap st.out) = true := by
    by_cases h0 : st.offset = 0
    · exact Or.inr (ho h0)
    · rw [beq_eq_false_iff_ne.2 h0]; exact Or.inl (consol_head _ (hhead h0))
  unfold linesK
  rw [consolidate_map e st tp L hl hne, ok_bind]
  rcases List.eq_nil_or_concat (consol (isLastChild e.root tp && legitAfter e.root tp) (st.offset == 0) L) with
    h | ⟨init, last, h⟩
  · rw [h]; exact Post_throw _ _
  · rw [List.concat_eq_append] at h
    rw [h] at hhd z4 z3 ⊢
    simp only [List.map_append, List.map_cons, List.map_nil, List.getLast?_concat, List.dropLast_concat,
      isEmpty_escapeText, textPiece_esc, Post_pure]
    refine ⟨Z, z1, fun h => (Bool.and_eq_true_iff.1 (z2 h)).2,
      (lines_wrote _ init last hb ho).congr ((lines_join hpre init last _ hhd).trans z4), ?_⟩
    intro hz x hx hxne hxnl
    have := consol_last (st.offset == 0) hx hxne
    rw [← z3 hz, List.getLast?_concat] at this
    cases this
    rw [if_neg (by simpa using hxne), write_line_offset _ _ _ (indentN_no_nl e.o hnl _) hxnl hxne]
    exact Nat.le_add_left _ _

theorem overLinesTail_spec (st : St) (tp : Path) (L : List Str) (hl : st.unwritten.getLast? = some tp)
    (hne : L ≠ []) (hb : Base st) (ho : Off st) (hhead : st.offset ≠ 0 → L.head? = some []) :
    Post (overLinesTail e tp st (L.map escapeText)) (LinesPost e tp st L) := by
  have h1 := linesK_spec e hind hnl st tp L hl hne hb ho hhead
  have h2 : legitAfter e.root tp = true →
      Post (linesK e st (L.map escapeText ++ [[]])) (LinesPost e tp st L) := by
    intro hla
    have := linesK_spec e hind hnl st tp (L ++ [[]]) hl (List.concat_ne_nil _ _) hb ho
      (fun h0 => by rw [List.head?_append, hhead h0]; rfl)
    rw [List.map_append] at this
    refine Post_mono this ?_
    rintro st' ⟨Z, a1, _, a3, _⟩
    rw [Wrap.join_append_singleton _ [] hne, List.append_assoc] at a3
    exact ⟨[' '] ++ Z, allWs_append allWs_space a1, fun _ => hla, a3, fun h => nomatch h⟩
  unfold overLinesTail
  cases (L.map escapeText).getLast? with
  | none => exact Post_throw _ _
  | some lastLine =>
    dsimp only
    by_cases hc : (lastLine.getLast? == some ' ' && legitAfter e.root tp) = true
    · rw [if_pos hc]
      cases fetchFollowingSibling e.root tp with
      | none => exact h1
      | some fol =>
        refine Post_bind_of (Post_true _) (fun r _ => ?_)
        rcases r with _ | _ | _
        · exact h2 (Bool.and_eq_true_iff.1 hc).2
        · exact h2 (Bool.and_eq_true_iff.1 hc).2
        · exact h1
    · rw [if_neg hc]; exact h1

end

theorem gapOK_congr {s w w' : Str} {f l : Bool} (h : collapse pyWs w = collapse pyWs w')
    (hg : GapOK (some s) w' f l) : GapOK (some s) w f l := by
  obtain ⟨A, Z, h1, h2, h3, h4, h5⟩ := hg
  exact ⟨A, Z, h1, h2, h3, h4, h.trans h5⟩

theorem gapOwed_congr {s w w' : Str} {f : Bool} (h : collapse pyWs w = collapse pyWs w')
    (hg : GapOwed s w' f) : GapOwed s w f := by
  obtain ⟨s', h1, h2, h3, A, h4, h5, h6⟩ := hg
  exact ⟨s', h1, h2, h3, A, h4, h5, h.trans h6⟩

theorem length_collapseAux_le (b : Bool) (s : Str) : (collapseAux pyWs b s).length ≤ s.length := by
  induction s generalizing b with
  | nil => exact Nat.le_refl 0
  | cons c s ih =>
    rw [collapseAux_cons]
    split
    · split
      · exact Nat.le_succ_of_le (ih true)
      · exact Nat.succ_le_succ (ih true)
    · exact Nat.succ_le_succ (ih false)

theorem collapsed_snoc_space {u : Str} (h : collapse pyWs (u ++ [' ']) = u ++ [' ']) : lastIsSpace u = false := by
  cases hl : lastIsSpace u with
  | false => rfl
  | true =>
    have := length_collapseAux_le false u
    rw [collapse_absorb hl allWs_space] at h
    rw [← collapse, h, List.length_append] at this
    exact absurd this (by simp)

/-! ## the end of `_serialize_text` -/

theorem finish_wrote (e : Env) {s X : Str} {f l : Bool} {st st1 : St} (hw : Wrote st st1 X)
    (hg : GapOK (some s) (trailGap st.out ++ X) f l ∨
      (GapOwed s (trailGap st.out ++ X) f ∧ availableSpace e st1 = 0 ∧ lineOffset e st1 > 0)) :
    Post (finishText st1) (TextPost e s f l st) := by
  obtain ⟨g, a1, a2, a3, a4, a5, a6, a7, a8⟩ := hw
  unfold finishText
  rw [Post_pure]
  exact ⟨g, a1, a2, a3, rfl, a5, a7, a6, hg.imp (gapOK_congr a4) (fun h => ⟨gapOwed_congr a4 h.1, h.2⟩)⟩

theorem finish_close (e : Env) {s X A Y Z : Str} {f l : Bool} {st st1 : St} (hfix : collapse pyWs s = s)
    (hs1 : s ≠ [' ']) (hw : Wrote st st1 X) (hA : AllWs A) (hZ : AllWs Z)
    (hlA : A ≠ [] → f = true ∨ firstIsSpace s = true) (hlZ : Z ≠ [] → l = true ∨ lastIsSpace s = true)
    (hcol : collapse pyWs (trailGap st.out ++ X) = collapse pyWs (A ++ (Y ++ Z)))
    (hrel : Y = s ∨ (s = Y ++ [' '] ∧ (Z = [] → availableSpace e st1 = 0 ∧ lineOffset e st1 > 0))) :
    Post (finishText st1) (TextPost e s f l st) := by
  rcases hrel with rfl | ⟨hs, hfull⟩
  · exact finish_wrote e hw (Or.inl ⟨A, Z, hA, hZ, hlA, hlZ, hcol⟩)
  by_cases hz : Z = []
  · subst hz
    rw [List.append_nil] at hcol
    have hY : Y ≠ [] := by rintro rfl; exact hs1 hs
    exact finish_wrote e hw (Or.inr ⟨⟨Y, hs, hY, collapsed_snoc_space (hs ▸ hfix), A, hA, hlA, hcol⟩, hfull rfl⟩)
  · refine finish_wrote e hw (Or.inl ⟨A, Z, hA, hZ, hlA, hlZ, hcol.trans (collapse_congr_left A ?_)⟩)
    rw [hs, List.append_assoc]
    exact collapse_congr_left Y (collapse_ws_eq hZ hz (allWs_append allWs_space hZ) (List.cons_ne_nil _ _))

/-! ## `_serialize_text`: the text fits -/

theorem lastIsSpace_ne_nil {w : Str} (h : lastIsSpace w = true) : w ≠ [] := by
  rintro rfl; cases h

theorem lastIsSpace_append_ws (p W : Str) (hp : lastIsSpace p = true) (hW : AllWs W) :
    lastIsSpace (p ++ W) = true := by
  rw [← lastIsSpace_collapse, collapse_absorb hp hW, lastIsSpace_collapse, hp]

theorem allWs_rtrim' {s : Str} (h : AllWs s) : AllWs (rtrim pyWs s) := allWs_rtrim h

theorem textPieces_allGap (pre body : Str) (r n : Bool) : AllGap (textPieces pre body r n) := by
  refine allGap_append (allGap_cons rfl (allGap_cons rfl allGap_nil)) ?_
  cases n
  · exact allGap_nil
  · exact allGap_cons rfl allGap_nil

theorem textPieces_chars {pre : Str} (hpre : AllWs pre) (t : Str) (b : Bool) :
    ∃ P, AllWs P ∧ (pre = [] → P = []) ∧ gapChars (textPieces pre (escapeText t) b b) =
      P ++ ((if b then rtrim pyWs t else t) ++ (if b then ['\n'] else [])) := by
  cases b
  · exact ⟨pre, hpre, id, by simp [textPieces, textPiece_esc, pieceStr]⟩
  · refine ⟨if (rtrim pyWs t).isEmpty then rtrim pyWs pre else pre, allWs_ite (allWs_rtrim hpre) hpre, ?_, ?_⟩
    · rintro rfl; split <;> rfl
    · simp [textPieces, rtrim_escapeText, textPiece_esc, isEmpty_escapeText, pieceStr, nl]

/-- the text node `s` at `tp` is to be written from state `st` -/
structure TextPre (e : Env) (s : Str) (fl l : Bool) (st : St) (tp : Path) : Prop where
  unw : st.unwritten = [tp]
  base : Base st
  off : Off st
  ws : AllWs (trailGap st.out)
  fix : collapse pyWs s = s
  ne : s ≠ []
  legB : trailGap st.out ≠ [] → fl = true ∨ firstIsSpace s = true
  legBefore : legitBefore e.root tp = true → fl = true ∨ firstIsSpace s = true
  legBefore' : firstIsSpace s = true → legitBefore e.root tp = true
  legAfter : legitAfter e.root tp = true → l = true ∨ lastIsSpace s = true

section
variable (e : Env) {s : Str} {fl l : Bool} {st : St} {tp : Path} (h : TextPre e s fl l st tp)
include h

theorem fits_spec {pre t : Str} (hpre : AllWs pre) (ht : (st.offset = 0 ∧ t = ltrim pyWs s) ∨ (pre = [] ∧ t = s))
    (b : Bool) (hlegA : b = true → l = true ∨ lastIsSpace s = true) :
    Post (finishText (write st (textPieces pre (escapeText t) b b))) (TextPost e s fl l st) := by
  obtain ⟨P, hP, hP0, hch⟩ := textPieces_chars hpre t b
  refine finish_wrote e (Wrote.write h.base h.off (textPieces_allGap _ _ _ _) rfl) (Or.inl
    ⟨trailGap st.out ++ P, if b then ['\n'] else [], allWs_append h.ws hP, allWs_ite allWs_nl allWs_nil, ?_, ?_, ?_⟩)
  · intro hne
    by_cases hw : trailGap st.out = []
    · -- not at the beginning of a line: no indentation
      rcases ht with ⟨h0, _⟩ | ⟨hp, _⟩
      · exact absurd hw (lastIsSpace_ne_nil (h.off h0))
      · rw [hw, hP0 hp] at hne; exact absurd rfl hne
    · exact h.legB hw
  · cases b
    · intro h; exact absurd rfl h
    · exact fun _ => hlegA rfl
  · rw [hch, ← List.append_assoc]
    refine (collapse_congr_left (trailGap st.out ++ P) (?_ : _ = collapse pyWs
      (t ++ if b = true then ['\n'] else []))).trans ?_
    · cases b
      · rfl
      · exact collapse_rtrim _ allWs_nl (by simp)
    · rw [← List.append_assoc, ← List.append_assoc _ s]
      refine collapse_congr_right ?_ _
      rcases ht with ⟨h0, rfl⟩ | ⟨_, rfl⟩
      · exact collapse_dropWhile pyWs (fun _ h => h) s (lastIsSpace_append_ws _ _ (h.off h0) hP)
      · rfl

theorem fitsLine_spec {pre t : Str} (hpre : AllWs pre) (ht : (st.offset = 0 ∧ t = ltrim pyWs s) ∨ (pre = [] ∧ t = s))
    (hlast : isLastChild e.root tp = true → l = true)
    (hnext : ¬ isLastChild e.root tp = true → ∀ fol, fetchFollowing e.root tp = some fol →
      legitBefore e.root fol = true → lastIsSpace s = true) :
    Post (fitsLine e st tp pre (escapeText t)) (TextPost e s fl l st) := by
  unfold fitsLine fitsK
  by_cases hl : isLastChild e.root tp = true
  · rw [if_pos hl]
    exact fits_spec e h hpre ht true (fun _ => Or.inl (hlast hl))
  rw [if_neg hl]
  cases hfol : fetchFollowing e.root tp with
  | none => exact fits_spec e h hpre ht false nofun
  | some fol =>
    dsimp only
    by_cases hlb : legitBefore e.root fol = true
    · rw [if_pos hlb]
      exact Post_bind_of (Post_true _) (fun r _ =>
        fits_spec e h hpre ht r.isNone (fun _ => Or.inr (hnext hl fol hfol hlb)))
    · rw [if_neg hlb]
      exact fits_spec e h hpre ht false nofun

end

/-! ## `_serialize_text`: the text is written over several lines -/

theorem collapsed_no_nl {s : Str} (h : collapse pyWs s = s) : '\n' ∉ s := by
  intro hm
  have hO : OnlySp pyWs s := by rw [← h]; exact collapseAux_onlySp pyWs false s
  cases hO '\n' hm pyWs_nl

theorem join_emptyFirst (c : Bool) {parts : List Str} (h : parts ≠ []) :
    Wrap.join ((if c then [[]] else []) ++ parts) = (if c then [' '] else []) ++ Wrap.join parts := by
  cases c
  · rfl
  · exact Wrap.join_cons_ne [] parts h

theorem map_emptyFirst (c : Bool) (parts : List Str) :
    (if c then [[]] else []) ++ parts.map escapeText = ((if c then [[]] else []) ++ parts).map escapeText := by
  cases c <;> rfl

section
variable (e : Env) (hind : AllWs e.o.indent) (hnl : '\n' ∉ e.o.indent) (hw : 1 ≤ e.width)
include hind hnl hw

/-- the rest `x` of the text (`s = Ypre ++ x`) goes on new lines, after an empty line if `c` -/
theorem remainder_spec {s F A Ypre x : Str} {f l c : Bool} {st st0 : St} {tp : Path}
    (h1 : Wrote st st0 F) (hl : st0.unwritten.getLast? = some tp) (hc : st0.offset ≠ 0 → c = true)
    (hfix : collapse pyWs s = s) (hs1 : s ≠ [' ']) (hsx : s = Ypre ++ x) (hxne : x ≠ [])
    (hla : legitAfter e.root tp = true → l = true ∨ lastIsSpace s = true)
    (hA : AllWs A) (hlA : A ≠ [] → f = true ∨ firstIsSpace s = true)
    (hcol : ∀ J, collapse pyWs (trailGap st.out ++ (F ++ ((if c then [' '] else []) ++ J))) =
      collapse pyWs (A ++ (Ypre ++ J))) :
    Post (overLinesTail e tp st0 ((if c then [[]] else []) ++ Wrap.wrapText e.width (escapeText x)) >>= finishText)
      (TextPost e s f l st) := by
  obtain ⟨parts, hmap, hrel, hpne⟩ := wrapText_esc e.width x
  have hpne' := hpne hxne
  rw [hmap, map_emptyFirst]
  refine Post_bind_of (overLinesTail_spec e hind hnl st0 tp _ hl
    (fun h => hpne' (List.append_eq_nil_iff.1 h).2) h1.base h1.off (fun h0 => by rw [hc h0]; rfl)) ?_
  rintro st2 ⟨Z, z1, z2, z3, z4⟩
  have hw2 := h1.trans z3
  rw [join_emptyFirst c hpne', List.append_assoc] at hw2
  refine finish_close e hfix hs1 hw2 hA z1 hlA (fun h => hla (z2 h)) (Y := Ypre ++ Wrap.join parts) ?_ ?_
  · rw [List.append_assoc Ypre]; exact hcol _
  · rcases hrel with hj | ⟨hj, lp, hlp, hwl⟩
    · left; rw [hj, hsx]
    · refine Or.inr ⟨by rw [hsx, hj, List.append_assoc], fun hz => ?_⟩
      -- the last line is full
      have hlpne : lp ≠ [] := by
        rintro rfl; exact absurd (Nat.le_trans hw hwl) (by simp)
      obtain ⟨p, hp⟩ : ∃ p, Wrap.join parts = p ++ lp := by
        obtain ⟨init, rfl⟩ := List.getLast?_eq_some_iff.1 hlp
        obtain ⟨p, hp⟩ := Wrap.join_snoc init
        exact ⟨p, hp lp⟩
      have hlpnl : '\n' ∉ lp := fun hm => collapsed_no_nl hfix (by rw [hsx, hj, hp]; simp [hm])
      have := z4 hz lp (by rw [List.getLast?_append, hlp]; rfl) hlpne hlpnl
      refine full_of_offset hw ?_
      rw [z3.level, ← length_indentN]
      exact Nat.le_trans (Nat.add_le_add_left hwl _) this

end

theorem wrapFirst_spec (n : Nat) (x : Str) :
    Post (wrapFirst (n : Int) (escapeText x)) (fun F => ∃ f, F = escapeText f ∧
      (f = x ∨ ∃ b, x = f ++ ' ' :: b ∧ (b = [] → n ≤ (escapeText f).length))) := by
  intro F hF
  unfold wrapFirst at hF
  rw [if_neg (by omega), Int.toNat_natCast, Wrap.wrapText] at hF
  rcases wrap_esc_step n (escapeText x).length x with h' | ⟨a, b, hx, hlong, h'⟩ <;> rw [h'] at hF
  · by_cases hx0 : x = []
    · rw [if_pos hx0] at hF; cases hF
    · rw [if_neg hx0] at hF; cases hF; exact ⟨x, rfl, Or.inl rfl⟩
  · cases hF
    refine ⟨a, rfl, Or.inr ⟨b, hx, ?_⟩⟩
    rintro rfl
    rw [hx, escapeText_space, escapeText_nil, List.length_append] at hlong
    exact Nat.le_of_lt_succ hlong

section
variable (e : Env) (hind : AllWs e.o.indent) (hnl : '\n' ∉ e.o.indent) (hw : 1 ≤ e.width)
  {s : Str} {fl l : Bool} {st : St} {tp : Path} (h : TextPre e s fl l st tp) (hs1 : s ≠ [' '])
include hind hnl hw h hs1

theorem notFilled_spec {F : Str} (hF : F.length > availableSpace e st) (hlb : legitBefore e.root tp = true) :
    Post (fillingK e tp tp st (escapeText s) F >>= finishText) (TextPost e s fl l st) := by
  unfold fillingK
  rw [if_neg (by simp [hF, hlb])]
  exact remainder_spec e hind hnl hw (F := []) (A := trailGap st.out ++ [' ']) (Ypre := []) (c := true)
    (Wrote.refl h.base h.off) (by rw [h.unw]; rfl) (fun _ => rfl) h.fix hs1 rfl h.ne h.legAfter
    (allWs_append h.ws allWs_space) (fun _ => h.legBefore hlb) (fun J => by simp)

theorem filling_spec {f : Str} (h0 : st.offset ≠ 0)
    (hdec : f = s ∨ ∃ b, s = f ++ ' ' :: b ∧ (b = [] → availableSpace e st ≤ (escapeText f).length)) :
    Post (fillingK e tp tp st (escapeText s) (escapeText f) >>= finishText) (TextPost e s fl l st) := by
  by_cases hc : (decide ((escapeText f).length > availableSpace e st) && legitBefore e.root tp) = true
  · rw [Bool.and_eq_true, decide_eq_true_eq] at hc
    exact notFilled_spec e hind hnl hw h hs1 hc.1 hc.2
  unfold fillingK
  rw [if_pos (by rw [Bool.not_eq_true', Bool.eq_false_iff]; exact hc), textPiece_esc]
  have hw1 : Wrote st (write st [.text f]) f :=
    Wrote.write h.base h.off (allGap_cons rfl allGap_nil) (List.append_nil f)
  rcases hdec with rfl | ⟨b, hsb, hav⟩
  · rw [List.drop_eq_nil_of_le (Nat.le_succ _), List.isEmpty_nil, if_pos rfl]
    exact finish_wrote e hw1 (Or.inl ⟨trailGap st.out, [], h.ws, allWs_nil, h.legB, fun h => absurd rfl h,
      by rw [List.append_nil]⟩)
  · have hdrop : (escapeText s).drop ((escapeText f).length + 1) = escapeText b := by
      rw [hsb, escapeText_space, List.drop_length_add_append]; rfl
    rw [hdrop, isEmpty_escapeText]
    by_cases hbe : b = []
    · -- the trailing space is swallowed
      subst hbe
      have hfe : f ≠ [] := by rintro rfl; exact hs1 hsb
      rw [List.isEmpty_nil, if_pos rfl]
      refine finish_close e h.fix hs1 hw1 h.ws allWs_nil h.legB (fun h => absurd rfl h) (Y := f)
        (by rw [List.append_nil]) (Or.inr ⟨hsb, fun _ => full_of_offset hw ?_⟩)
      have hf_nl : '\n' ∉ f := fun hm => collapsed_no_nl h.fix (hsb ▸ List.mem_append_left _ hm)
      have hoff : (write st [.text f]).offset = st.offset + (escapeText f).length := by
        rw [write_single st (.text f) (fun _ h => absurd h h0) (List.isEmpty_eq_false_iff.2 hfe)
          (escapeText_ne_nil hfe)]
        exact newOffset_no_nl _ _ (escapeText_no_nl hf_nl)
      rw [write_level, hoff]
      exact le_of_availableSpace_le h0 (hav rfl)
    · rw [if_neg (by simpa using hbe)]
      exact remainder_spec e hind hnl hw (F := f) (A := trailGap st.out) (Ypre := f ++ [' ']) (c := true) hw1
        (by rw [hw1.unwritten, h.unw]; rfl) (fun _ => rfl) h.fix hs1 (by rw [hsb, List.append_assoc]; rfl) hbe
        h.legAfter h.ws h.legB (fun J => by simp)

theorem overLines_spec :
    Post (serializeTextOverLines e st (escapeText s) >>= finishText) (TextPost e s fl l st) := by
  rw [serializeTextOverLines_eq, h.unw]
  simp only [List.head?_cons, List.getLast?_singleton]
  by_cases h0 : st.offset = 0
  · have hP := h.off h0
    have hxne : ltrim pyWs s ≠ [] := fun hx =>
      hs1 (h.fix.symm.trans (collapse_ws (dropWhile_eq_nil_all _ _ hx) h.ne))
    rw [if_pos (beq_iff_eq.2 h0), ltrim_escapeText]
    refine remainder_spec e hind hnl hw (F := []) (A := trailGap st.out) (Ypre := s.takeWhile pyWs)
      (Wrote.refl h.base h.off) (by rw [h.unw]; rfl) (fun hne => absurd h0 hne) h.fix hs1
      (List.takeWhile_append_dropWhile).symm hxne h.legAfter h.ws h.legB (fun J => ?_)
    rw [List.nil_append, ← List.append_assoc, ← List.append_assoc]
    exact (collapse_congr_right (collapse_absorb hP (allWs_ite allWs_space allWs_nil)) J).trans
      (collapse_congr_right (collapse_absorb hP
        (fun c hc => List.all_eq_true.1 List.all_takeWhile c hc)) J).symm
  · rw [if_neg (by simpa using h0)]
    by_cases hh : ((escapeText s).head? == some ' ') = true
    · obtain ⟨s1, rfl⟩ := escapeText_head_space (beq_iff_eq.1 hh)
      rw [if_pos hh, bind_assoc]
      conv => enter [1, 1, 2]; rw [escapeText_cons_space, List.drop_succ_cons, List.drop_zero]
      cases ha : availableSpace e st with
      | zero =>
        -- no space at all: nothing is written on this line
        refine Post_bind_of (Post_true _) (fun F _ => ?_)
        exact notFilled_spec e hind hnl hw h hs1 (ha ▸ Nat.succ_pos _)
          (h.legBefore' (by simp [firstIsSpace, pyWs_space]))
      | succ n =>
        rw [Int.natCast_succ, Int.add_sub_cancel]
        refine Post_bind_of (wrapFirst_spec n s1) ?_
        rintro F ⟨f1, rfl, hd⟩
        rw [← escapeText_cons_space]
        refine filling_spec e hind hnl hw h hs1 h0 (hd.imp (congrArg _) ?_)
        rintro ⟨b, hx, hb⟩
        exact ⟨b, congrArg _ hx, fun hb0 => by rw [ha, escapeText_cons_space]; exact Nat.succ_le_succ (hb hb0)⟩
    · rw [if_neg hh, bind_assoc]
      refine Post_bind_of (wrapFirst_spec _ s) ?_
      rintro F ⟨f, rfl, hd⟩
      exact filling_spec e hind hnl hw h hs1 h0 hd

end

/-! ## `_serialize_text` -/

theorem legitBefore_following {e : Env} {q : Path} {ns name : String} {attrs : List Attr} {kids : List Node}
    (hp : Par e q ns name attrs kids) {j : Nat} {s : Str} (hk : kids[j]? = some (.text s))
    (hnl : ¬ isLastChild e.root (q ++ [j]) = true) {fol : Path}
    (hf : fetchFollowing e.root (q ++ [j]) = some fol) (hlb : legitBefore e.root fol = true) :
    lastIsSpace s = true := by
  have hlt : j + 1 < kids.length :=
    Nat.lt_of_le_of_ne (List.getElem?_eq_some_iff.1 hk).1
      (fun h => hnl (by rw [isLastChild_eq hp.at_, h]; exact beq_self_eq_true _))
  have hlen : lenAt e.root (q ++ [j]) = 0 := by
    rw [lenAt, nodeAt_kid hp.at_, hk]; rfl
  rw [fetchFollowing, hlen, if_neg (Nat.lt_irrefl 0), fetchFollowingSibling_eq hp.at_, if_pos hlt] at hf
  cases hf
  have hk1 : kids[j + 1]? = some kids[j + 1] := List.getElem?_eq_getElem hlt
  rw [legitBefore_nontext hp.at_ (j + 1) _ hk1 (mergedKids_adjacent hp.merged hk _ hk1)] at hlb
  simpa [hk] using hlb

theorem serializeText_single {e : Env} {st : St} {tp : Path} {s : Str} (hu : st.unwritten = [tp])
    (hn : nodeAt e.root tp = some (.text s)) : serializeText e st = textBody e st (normalizeText s) tp := by
  have htext : textAt e tp = .ok s := by rw [textAt, hn]
  rw [serializeText_eq, hu, List.mapM_cons, htext]
  simp only [List.mapM_nil, bind, Except.bind, pure, Except.pure, List.getLast?_singleton, List.flatten_cons,
    List.flatten_nil, List.append_nil]

section
variable (e : Env) (hind : AllWs e.o.indent) (hnl : '\n' ∉ e.o.indent) (hw : 1 ≤ e.width)
include hind hnl hw

theorem textBody_spec {s : Str} {fl l : Bool} {st : St} {tp : Path} (h : TextPre e s fl l st tp)
    (hlast : isLastChild e.root tp = true → l = true)
    (hnext : ¬ isLastChild e.root tp = true → ∀ fol, fetchFollowing e.root tp = some fol →
      legitBefore e.root fol = true → lastIsSpace s = true) :
    Post (textBody e st (escapeText s) tp) (TextPost e s fl l st) := by
  have hpre := allWs_indentN e.o hind st.level
  unfold textBody
  by_cases hc1 : (availableSpace e st == (rtrim pyWs (escapeText s)).length && legitAfter e.root tp) = true
  · -- text fits perfectly
    have hla := fun _ : true = true => h.legAfter (Bool.and_eq_true_iff.1 hc1).2
    rw [if_pos hc1]
    by_cases h0 : (st.offset == 0) = true
    · rw [if_pos h0, ltrim_escapeText]
      exact fits_spec e h hpre (Or.inl ⟨beq_iff_eq.1 h0, rfl⟩) true hla
    · rw [if_neg h0]
      exact fits_spec e h allWs_nil (Or.inr ⟨rfl, rfl⟩) true hla
  rw [if_neg hc1]
  by_cases hc2 : availableSpace e st > (escapeText s).length
  · -- text fits the current line
    rw [if_pos hc2]
    by_cases h0 : (st.offset == 0) = true
    · rw [if_pos h0, ltrim_escapeText]
      exact fitsLine_spec e h hpre (Or.inl ⟨beq_iff_eq.1 h0, rfl⟩) hlast hnext
    · rw [if_neg h0]
      exact fitsLine_spec e h allWs_nil (Or.inr ⟨rfl, rfl⟩) hlast hnext
  rw [if_neg hc2]
  by_cases hc3 : (escapeText s == [' ']) = true
  · -- a single space that does not fit
    rw [if_pos hc3]
    obtain rfl := escapeText_eq_space (beq_iff_eq.1 hc3)
    have hw1 : Wrote st (write st [nl]) ['\n'] := Wrote.write h.base h.off (allGap_cons rfl allGap_nil) rfl
    exact finish_wrote e hw1 (Or.inl ⟨trailGap st.out, ['\n'], h.ws, allWs_nl, h.legB, fun _ => Or.inr rfl,
      collapse_congr_left _ (collapse_ws_eq allWs_nl (List.cons_ne_nil _ _) (allWs_append allWs_space allWs_nl)
        (List.cons_ne_nil _ _))⟩)
  · rw [if_neg hc3]
    exact overLines_spec e hind hnl hw h (fun hs => hc3 (by rw [hs]; rfl))

theorem textSpec : TextSpec e := by
  intro q ns name attrs kids j s st hp hk hunw hb hoff hws hleg
  have hnode : nodeAt e.root (q ++ [j]) = some (.text s) := by rw [nodeAt_kid hp.at_]; exact hk
  obtain ⟨hfix, hsne⟩ := hp.textFix (List.mem_of_getElem? hk)
  have hLB := legitBefore_text hp.at_ j s hk
  have hLA := legitAfter_text hp.at_ j s hk
  have h : TextPre e s (j == 0) (j + 1 == kids.length) st (q ++ [j]) :=
    ⟨hunw, hb, hoff, hws, hfix, hsne, hleg, fun h => Bool.or_eq_true_iff.1 (hLB ▸ h),
      fun h => hLB ▸ Bool.or_eq_true_iff.2 (Or.inr h), fun h => Bool.or_eq_true_iff.1 (hLA ▸ h)⟩
  rw [serializeText_single hunw hnode, normalizeText, normText, hfix]
  exact textBody_spec e hind hnl hw h (fun hl => isLastChild_eq hp.at_ j ▸ hl)
    (fun hnl fol => legitBefore_following hp hk hnl)
end
end Delb.Wrapping
