import DelbModel.Lemmas.WrapTransparent.Plain
import DelbModel.Lemmas.WrapTransparent.Paths
/-!
# C03 (width ≥ 1): the serializer's state between two nodes, and the specification of `_serialize_text`

Vocabulary for the machine proof (`MachineSpec.lean`): which gap a position of a child list lies in and when
whitespace is legit there (`tB`, `firstOf`, `legBK`); how the pieces written for a child list read back (`KidsOut`,
`TextSpec`); the state of the serializer between two nodes (`Ready`, `Pending`, `Trail`, `NodePost`).
-/
namespace Delb.Wrapping
open Delb.Ser Delb.WS Delb.Pretty

/-- the text node right before position `i` -/
def tB (kids : List Node) (i : Nat) : Option Str :=
  if i = 0 then none else match kids[i - 1]? with | some (.text s) => some s | _ => none

/-- the first-child flag of the gap before position `i` whose text (if any) is `t` -/
def firstOf (t : Option Str) (i : Nat) : Bool := match t with | none => i == 0 | some _ => i == 1

/-- whitespace is legit at the beginning of a gap -/
def legBK (first : Bool) (pend : Option Str) (rest : List Node) : Bool :=
  first || (match pend with
    | some s => firstIsSpace s
    | none => match rest with | [] => true | .text s :: _ => firstIsSpace s | _ => false)

theorem legBK_some (first : Bool) (s : Str) (rest : List Node) :
    legBK first (some s) rest = (first || firstIsSpace s) := rfl
theorem legBK_text (first : Bool) (s : Str) (rest : List Node) :
    legBK first none (.text s :: rest) = legBK first (some s) rest := rfl
theorem legBK_nontext (first : Bool) {k : Node} (rest : List Node) (hk : k.isText = false) :
    legBK first none (k :: rest) = first := by
  cases k <;> first | exact Bool.or_false _ | cases hk

/-- an element in default mode whose children are being serialized -/
structure Par (e : Env) (q : Path) (ns name : String) (attrs : List Attr) (kids : List Node) : Prop where
  at_ : nodeAt e.root q = some (.tag ns name attrs kids)
  red : RedIn .default (.tag ns name attrs kids)
  dflt : directive attrs .default = .default

theorem Par.merged {e q ns name attrs kids} (h : Par e q ns name attrs kids) : mergedKids kids = true :=
  (redIn_kids h.red).1

theorem Par.kidRed {e q ns name attrs kids} (h : Par e q ns name attrs kids) {k : Node} (hk : k ∈ kids)
    (hnt : k.isText = false) : RedIn .default k := by
  have := (redIn_kids h.red).2.2.1 k hk hnt
  rwa [h.dflt] at this

theorem Par.textFix {e q ns name attrs kids} (h : Par e q ns name attrs kids) {s : Str} (hs : Node.text s ∈ kids) :
    collapse pyWs s = s ∧ s ≠ [] := by
  obtain ⟨f', l', hfix, hne⟩ := textsOK_mem _ _ _ ((redIn_kids h.red).2.2.2 h.dflt) hs
  exact ⟨collapse_of_rc_fixed hfix, hne⟩

theorem mergedKids_adjacent : ∀ {kids : List Node} {i : Nat} {s : Str}, mergedKids kids = true →
    kids[i]? = some (.text s) → ∀ k, kids[i + 1]? = some k → k.isText = false := by
  intro kids
  induction kids with
  | nil => intro i s _ h; simp at h
  | cons x xs ih =>
    intro i s hm h k hk
    cases i with
    | zero =>
      simp at h; subst h
      rw [mergedKids_text] at hm
      simp only [Bool.and_eq_true, Bool.not_eq_true'] at hm
      cases xs with
      | nil => simp at hk
      | cons y ys => simp at hk; subst hk; simpa using hm.1.2
    | succ i => exact ih (mergedKids_tail hm) (by simpa using h) k (by simpa using hk)

theorem textsOK_last {rc : Str → Bool → Bool → Str} {s : Str} : ∀ {l : List Node} {f : Bool} {i : Nat},
    TextsOK rc f l → l[i]? = some (.text s) → i + 1 = l.length → ∃ f', rc s f' true = s
  | [], _, _, _, hi, _ => by simp at hi
  | x :: xs, f, 0, hok, hi, hl => by
    have hx : x = .text s := by simpa using hi
    have hxs : xs = [] := List.eq_nil_of_length_eq_zero (by simpa using hl.symm)
    subst hx hxs
    exact ⟨f, ((textsOK_text _ _ _ _).1 hok).1⟩
  | x :: xs, _, i + 1, hok, hi, hl => textsOK_last (textsOK_tail hok) (by simpa using hi) (by simpa using hl)

theorem Par.lastText {e q ns name attrs kids} (h : Par e q ns name attrs kids) {i : Nat} {s : Str}
    (hk : kids[i]? = some (.text s)) (hl : i + 1 = kids.length) (hsp : lastIsSpace s = true) : s = [' '] := by
  obtain ⟨f', hfix⟩ := textsOK_last ((redIn_kids h.red).2.2.2 h.dflt) hk hl
  rw [rcS, spec_eq] at hfix
  split at hfix
  · exact hfix.symm
  · have hl' := specCore_last pyWs s f'
    rw [hfix] at hl'
    unfold lastIsSpace at hsp
    cases hg : s.getLast? with
    | none => rw [hg] at hsp; cases hsp
    | some c => rw [hg] at hsp; exact absurd (hl' c hg) (by simp [show pyWs c = true from hsp])

theorem Par.not_owed_last {e q ns name attrs kids} (h : Par e q ns name attrs kids) {i : Nat} {s w : Str} {f : Bool}
    (hk : kids[i]? = some (.text s)) (hl : i + 1 = kids.length) : ¬ GapOwed s w f := by
  intro ho
  have hs1 : s = [' '] := by
    refine h.lastText hk hl ?_
    obtain ⟨s', rfl, _⟩ := ho
    rw [lastIsSpace_concat]; exact pyWs_space
  obtain ⟨s', hs', hne, _⟩ := ho
  rw [hs1] at hs'
  cases s' with
  | nil => exact hne rfl
  | cons c cs => simpa using congrArg List.length hs'

theorem tB_succ_nontext {kids : List Node} {i : Nat} {k : Node} (hk : kids[i]? = some k) (hnt : k.isText = false) :
    tB kids (i + 1) = none := by
  unfold tB
  simp only [Nat.add_one_ne_zero, if_false, Nat.add_sub_cancel, hk]
  cases k <;> simp_all [Node.isText]

theorem tB_succ_text {kids : List Node} {i : Nat} {s : Str} (hk : kids[i]? = some (.text s)) :
    tB kids (i + 1) = some s := by
  unfold tB
  simp [hk]

theorem tB_some {kids : List Node} {i : Nat} {s : Str} (h : tB kids i = some s) :
    ∃ j, i = j + 1 ∧ kids[j]? = some (.text s) := by
  cases i with
  | zero => cases h
  | succ j =>
    refine ⟨j, rfl, ?_⟩
    unfold tB at h
    simp only [Nat.add_one_ne_zero, if_false, Nat.add_sub_cancel] at h
    cases hx : kids[j]? with
    | none => rw [hx] at h; cases h
    | some n => rw [hx] at h; cases n <;> simp_all

theorem firstOf_succ (s : Str) (j : Nat) : firstOf (some s) (j + 1) = (j == 0) := by
  cases j <;> rfl

section
variable {e : Env} {q : Path} {ns name : String} {attrs : List Attr} {kids : List Node}
  (hp : Par e q ns name attrs kids)
include hp

theorem tB_of_text {i : Nat} {s : Str} (hk : kids[i]? = some (.text s)) : tB kids i = none := by
  unfold tB
  by_cases hi : i = 0
  · simp [hi]
  · simp only [hi, if_false]
    cases hx : kids[i - 1]? with
    | none => rfl
    | some n =>
      cases n with
      | text t =>
        have := mergedKids_adjacent hp.merged hx (.text s) (by rw [show i - 1 + 1 = i by omega]; exact hk)
        simp at this
      | _ => rfl

theorem legitBefore_legA {i : Nat} {k : Node} (hk : kids[i]? = some k) (hnt : k.isText = false) :
    legitBefore e.root (q ++ [i]) = legA (firstOf (tB kids i) i) (tB kids i) false := by
  rw [legitBefore_nontext hp.at_ i k hk hnt]
  unfold tB
  by_cases hi : i = 0
  · simp [hi, legA, firstOf]
  · have hb : (i == 0) = false := by simpa using hi
    simp only [hi, if_false, hb, Bool.false_or]
    generalize kids[i - 1]? = x
    cases x with
    | none => simp [legA, firstOf, hb]
    | some n => cases n <;> simp [legA, firstOf, hb]

theorem legitAfter_legBK {i : Nat} {k : Node} (hk : kids[i]? = some k) (hnt : k.isText = false) :
    legitAfter e.root (q ++ [i]) = legBK false none (kids.drop (i + 1)) := by
  rw [legitAfter_nontext hp.at_ i k hk hnt]
  have hlt : i < kids.length := (List.getElem?_eq_some_iff.1 hk).1
  unfold legBK
  simp only [Bool.false_or]
  by_cases hl : i + 1 = kids.length
  · simp [hl]
  · have hlt' : i + 1 < kids.length := by omega
    have hb : (i + 1 == kids.length) = false := by simpa using hl
    rw [List.drop_eq_getElem_cons hlt', hb, List.getElem?_eq_getElem hlt']
    simp only [Bool.false_or]
    generalize kids[i + 1] = n
    cases n <;> rfl
end

/-- what `_serialize_text` leaves for the text `s` of a gap: character data `g` that reduces to `s`, or to `s` without
    its trailing space where the line is full, so that a line break follows -/
def TextPost (e : Env) (s : Str) (first last : Bool) (st st' : St) : Prop :=
  ∃ g, st'.out = st.out ++ g ∧ AllGap g ∧ NonEmp g ∧ st'.unwritten = [] ∧ Base st' ∧ st'.level = st.level ∧ Off st' ∧
    (GapOK (some s) (trailGap st.out ++ gapChars g) first last ∨
     (GapOwed s (trailGap st.out ++ gapChars g) first ∧ availableSpace e st' = 0 ∧ lineOffset e st' > 0))

/-- `_serialize_text` writes the pending text node as character data that reduces to it -/
def TextSpec (e : Env) : Prop :=
  ∀ (q : Path) (ns name : String) (attrs : List Attr) (kids : List Node) (j : Nat) (s : Str) (st : St),
    Par e q ns name attrs kids → kids[j]? = some (.text s) → st.unwritten = [q ++ [j]] → Base st → Off st →
    AllWs (trailGap st.out) → (trailGap st.out ≠ [] → (j == 0) = true ∨ firstIsSpace s = true) →
    Post (serializeText e st) (TextPost e s (j == 0) (j + 1 == kids.length) st)

/-- the pieces `ps` read back as children `K` that lay out `rest` (see `LayKids`) -/
def KidsOut (m : Dict) (first : Bool) (pend : Option Str) (w0 : Str) (rest : List Node) (ps : List Piece) : Prop :=
  ∃ K, LayKids first pend w0 rest K ∧ emitKids m K = .ok (eraseAll ps)

section
variable {m : Dict} {first : Bool} {pend : Option Str} {w0 : Str} {rest : List Node} {g ps : List Piece}

theorem KidsOut.nil (hg : IsGap g) (h : ∀ T, AllWs T → GapOK pend (w0 ++ gapChars g ++ T) first true) :
    KidsOut m first pend w0 [] g :=
  ⟨_, .nil first pend w0 (strs g) h, emitKids_gap m hg⟩

theorem KidsOut.text {s : Str} (h : KidsOut m first (some s) w0 rest ps) :
    KidsOut m first none w0 (.text s :: rest) ps := by
  obtain ⟨K, h1, h2⟩ := h
  exact ⟨K, .text _ _ _ _ _ h1, h2⟩

theorem KidsOut.node {k : Node} {N : List Piece} (hk : k.isText = false) (hg : IsGap g)
    (hgap : GapOK pend (w0 ++ gapChars g) first false) (hN : Markup m k N) (h : KidsOut m false none [] rest ps) :
    KidsOut m first pend w0 (k :: rest) (g ++ N ++ ps) := by
  obtain ⟨_, u, hlay, hu⟩ := hN
  obtain ⟨K, h1, h2⟩ := h
  refine ⟨_, .node _ _ _ (strs g) _ u _ K hk hgap hlay h1, ?_⟩
  simpa using emitKids_append _ _ _ _ _ (emitKids_gap m hg) (emitKids_append _ _ _ _ _ (emitKids_single m u _ hu) h2)

theorem KidsOut.absorb (hg : IsGap g) (h : KidsOut m first pend (w0 ++ gapChars g) rest ps) :
    KidsOut m first pend w0 rest (g ++ ps) := by
  obtain ⟨K, h1, h2⟩ := h
  exact ⟨_, layKids_absorb (strs g) _ _ _ _ _ h1, by simpa using emitKids_append _ _ _ _ _ (emitKids_gap m hg) h2⟩

theorem KidsOut.trail (hg : IsGap g) (hws : AllWs (gapChars g)) (h : KidsOut m first pend w0 rest ps) :
    KidsOut m first pend w0 rest (ps ++ g) := by
  obtain ⟨K, h1, h2⟩ := h
  exact ⟨_, layKids_trail (strs g) hws _ _ _ _ _ h1, by simpa using emitKids_append _ _ _ _ _ h2 (emitKids_gap m hg)⟩
end

/-- the characters `w` written so far are fine for a gap with text `t` in front of a non-text node -/
def GapReady (t : Option Str) (first : Bool) (w : Str) : Prop :=
  match t with
  | none => AllWs w ∧ (w ≠ [] → first = true)
  | some s => GapOK (some s) w first false

theorem gap_ext {t : Option Str} {first : Bool} {w x : Str} (h : GapReady t first w)
    (hx : AllWs x) (hleg : x ≠ [] → legA first t false = true) : GapReady t first (w ++ x) := by
  cases t with
  | none =>
    obtain ⟨h1, h2⟩ := h
    refine ⟨allWs_append h1 hx, fun hne => ?_⟩
    by_cases hw : w = []
    · subst hw; exact hleg (by simpa using hne)
    · exact h2 hw
  | some s => exact gapOK_append_ws h hx (fun hne => Or.inr (hleg hne))

theorem gap_close {t : Option Str} {first : Bool} {w : Str} (h : GapReady t first w) : GapOK t w first false := by
  cases t with
  | none => exact ⟨h.1, fun hne => Or.inl (h.2 hne)⟩
  | some s => exact h

theorem legA_of_lineStart {t : Option Str} {first : Bool} {w : Str} (h : GapReady t first w)
    (hs : ∀ s, t = some s → s ≠ []) (hl : lastIsSpace w = true) : legA first t false = true := by
  cases t with
  | none =>
    apply h.2
    intro hw0; rw [hw0] at hl; simp [lastIsSpace] at hl
  | some s =>
    rcases gapOK_ends_ws h (hs s rfl) hl with h' | h'
    · cases h'
    · exact h'

theorem gapOwed_last {s w : Str} {f : Bool} (h : GapOwed s w f) : lastIsSpace s = true := by
  obtain ⟨s', rfl, _⟩ := h
  rw [lastIsSpace_concat]; exact pyWs_space

/-- the gap before the next node is ready: no text is pending -/
structure Ready (e : Env) (t : Option Str) (first : Bool) (st : St) : Prop where
  base : Base st
  off : Off st
  unwritten : st.unwritten = []
  gap : GapReady t first (trailGap st.out) ∨
    ∃ s, t = some s ∧ GapOwed s (trailGap st.out) first ∧ availableSpace e st = 0 ∧ lineOffset e st > 0

/-- the text node before position `i` is still to be written -/
structure Pending (q : Path) (i : Nat) (s : Str) (first : Bool) (st : St) : Prop where
  base : Base st
  off : Off st
  unwritten : st.unwritten = [q ++ [i - 1]]
  ws : AllWs (trailGap st.out)
  legit : trailGap st.out ≠ [] → first = true ∨ firstIsSpace s = true

theorem base_setLevel {st : St} (h : Base st) (n : Nat) : Base { st with level := n } := h
theorem off_setLevel {st : St} (h : Off st) (n : Nat) : Off { st with level := n } := h

/-- whitespace that is written behind the node at `p` only where that is legit -/
def Trail (e : Env) (p : Path) (st st' : St) : Prop :=
  ∃ b, WsStep st st' b ∧ (gapChars b ≠ [] → legitAfter e.root p = true)

theorem trail_nl (e : Env) {p : Path} (st : St) (hl : legitAfter e.root p = true) : Trail e p st (write st [nl]) := by
  obtain ⟨b, hb, _⟩ := wsStep_write st allWs_nl
  exact ⟨b, hb, fun _ => hl⟩

theorem afterNode_spec (e : Env) (p : Path) (st : St) : Post (afterNode e p st) (Trail e p st) := by
  have hstay : Trail e p st st := ⟨[], .refl st, fun h => absurd rfl h⟩
  unfold afterNode
  refine Post_ite (fun hl => ?_) (fun _ => (Post_pure _ _).2 hstay)
  have hk : ∀ ff, Post (afterNodeK st ff) (Trail e p st) := fun ff =>
    Post_ite (fun _ => (Post_pure _ _).2 (trail_nl e st hl)) (fun _ => (Post_pure _ _).2 hstay)
  cases fetchFollowing e.root p with
  | none => exact hk _
  | some following => exact Post_bind_of (Post_true _) (fun _ _ => hk _)

/-- `st'` is `st` after `serialize_node` for the child `k` at `p`: the rest `g` of the gap with text `t` before it,
    the node's markup `N`, whitespace `b` behind it -/
structure NodeOut (e : Env) (p : Path) (k : Node) (t : Option Str) (first : Bool) (st st' : St)
    (g N b : List Piece) : Prop where
  out : st'.out = st.out ++ g ++ N ++ b
  gap : IsGap g
  gapOK : GapOK t (trailGap st.out ++ gapChars g) first false
  markup : Markup e.m k N
  trail : IsGap b
  trail_ws : AllWs (gapChars b)
  trail_legit : gapChars b ≠ [] → legitAfter e.root p = true
  base : Base st'
  off : Off st'
  unwritten : st'.unwritten = []
  level : st'.level = st.level

def NodePost (e : Env) (p : Path) (k : Node) (t : Option Str) (first : Bool) (st st' : St) : Prop :=
  ∃ g N b, NodeOut e p k t first st st' g N b

section
variable {e : Env} {p : Path} {k : Node} {t : Option Str} {first : Bool} {st st0 st1 st2 st' : St}

theorem NodePost.prepend {g0 : List Piece} (hout : st1.out = st.out ++ g0) (hg : IsGap g0)
    (hlev : st1.level = st.level) (h : NodePost e p k t first st1 st') : NodePost e p k t first st st' := by
  obtain ⟨g, N, b, h⟩ := h
  refine ⟨g0 ++ g, N, b, by rw [h.out, hout]; simp, hg.append h.gap, ?_, h.markup, h.trail, h.trail_ws, h.trail_legit,
    h.base, h.off, h.unwritten, h.level.trans hlev⟩
  have := h.gapOK
  rw [hout, trailGap_append_gap _ _ hg.1] at this
  simpa [List.append_assoc] using this

theorem NodePost.of_steps {g0 ind N : List Piece} {x : Except Err St} (hts : ∀ s, t = some s → s ≠ [])
    (hg : GapReady t first (trailGap st.out)) (hoff : Off st) (hunw : st.unwritten = [])
    (h0 : WsStep st st0 g0) (hleg : g0 ≠ [] → legA first t false = true) (h1 : TagOut e k st0 st2 ind N)
    (hps : st2.preserveSpace = false) (hx : Post x (Trail e p st2)) : Post x (NodePost e p k t first st) := by
  refine Post_mono hx ?_
  intro st' ⟨b, h2, hl⟩
  have hg0 : GapReady t first (trailGap st.out ++ gapChars g0) :=
    gap_ext hg h0.ws (fun hne => hleg (by rintro rfl; exact hne rfl))
  refine ⟨g0 ++ ind, N, b, by rw [h2.out, h1.out, h0.out]; simp, h0.gap.append h1.ind_gap, ?_, h1.markup, h2.gap,
    h2.ws, hl, ⟨h2.preserveSpace.trans hps, h2.space.trans h1.space⟩, h2.off (fun h => absurd h h1.offset),
    by rw [h2.unwritten, h1.unwritten, h0.unwritten, hunw], by rw [h2.level, h1.level, h0.level]⟩
  rw [gapChars_append, ← List.append_assoc]
  refine gap_close (gap_ext hg0 h1.ind_ws (fun hne => legA_of_lineStart hg0 hts ?_))
  rw [← h0.trailGap]
  exact h0.off hoff (h1.ind_start (by rintro rfl; exact hne rfl))
end

theorem upTo?_zero {n : Nat} (h : 0 < n) : upTo? n 0 = none := by
  unfold upTo?
  have : ¬ ((n : Int) ≤ 0) := by omega
  rw [if_neg this]

theorem requiredSpace_zero (e : Env) (fuel : Nat) (p : Path) (k : Node) (hk : nodeAt e.root p = some k)
    (hnt : k.isText = false) : Post (requiredSpace e fuel p 0) (fun r => r = none) := by
  cases fuel with
  | zero => rw [requiredSpace]; exact Post_error _ _
  | succ fuel =>
    rw [requiredSpace, getNode_eq hk, ok_bind]
    cases k with
    | text s => cases hnt
    | comment s => exact (Post_pure _ _).2 (upTo?_zero (by simp [renderPiece]))
    | pi t s => exact (Post_pure _ _).2 (upTo?_zero (by simp [renderPiece]))
    | tag ns name attrs kids =>
      refine Post_bind_of (Post_true _) (fun pr _ => ?_)
      dsimp only
      rw [if_pos (by split <;> omega)]
      exact (Post_pure _ _).2 rfl

theorem not_fits_zero (e : Env) (st : St) (p : Path) (k : Node) (hk : nodeAt e.root p = some k)
    (hnt : k.isText = false) (ha : availableSpace e st = 0) :
    Post (nodeFitsRemainingLine e st p) (fun b => b = false) := by
  unfold nodeFitsRemainingLine
  rw [ha]
  refine Post_bind_of (requiredSpace_zero e e.fuel p k hk hnt) (fun r hr => ?_)
  rw [hr]
  exact (Post_pure _ _).2 rfl

end Delb.Wrapping
