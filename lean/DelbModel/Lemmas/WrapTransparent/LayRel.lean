import DelbModel.Lemmas.WrapTransparent.Gap
/-!
# C03 (width ≥ 1), structural half: laid-out trees

`Lay t u`: `u` is `t` with whitespace text nodes added and text nodes re-broken as the text-wrapping
serializer may do it (each gap between non-text children satisfies `GapOK`); sub-trees written by the
line-fitting or the space-preserving serializer are unchanged (`Lay.plain`).
`wlay_reduce`: reading a laid-out tree back and reducing its whitespace gives the original tree.
-/
namespace Delb.Wrapping
open Delb.Ser Delb.WS Delb.Pretty

mutual
  inductive Lay : Node → Node → Prop
    | plain (k : Node) : Lay k k
    | elem (ns name : String) (attrs : List Attr) (kids K : List Node) (T : Str) :
        directive attrs .default ≠ .preserve → kids ≠ [] → AllWs T →
        LayKids true none [] kids K → Lay (.tag ns name attrs kids) (.tag ns name attrs (K ++ [.text T]))
  /-- `LayKids first pend w0 rest K`: `K` lays out the children `rest`; the current gap has the text
      `pend` (if already seen) and the characters `w0` written so far -/
  inductive LayKids : Bool → Option Str → Str → List Node → List Node → Prop
    | nil (first : Bool) (pend : Option Str) (w0 : Str) (g : List Str) :
        (∀ T, AllWs T → GapOK pend (w0 ++ g.flatten ++ T) first true) →
        LayKids first pend w0 [] (g.map Node.text)
    | text (first : Bool) (w0 s : Str) (rest K : List Node) :
        LayKids first (some s) w0 rest K → LayKids first none w0 (.text s :: rest) K
    | node (first : Bool) (pend : Option Str) (w0 : Str) (g : List Str) (k u : Node) (rest K : List Node) :
        k.isText = false → GapOK pend (w0 ++ g.flatten) first false → Lay k u →
        LayKids false none [] rest K → LayKids first pend w0 (k :: rest) (g.map Node.text ++ u :: K)
end

theorem layKids_absorb (g0 : List Str) : ∀ (rest : List Node) (first : Bool) (pend : Option Str) (w0 : Str)
    (K : List Node), LayKids first pend (w0 ++ g0.flatten) rest K → LayKids first pend w0 rest (g0.map Node.text ++ K) := by
  intro rest
  induction rest with
  | nil =>
    intro first pend w0 K h
    cases h with
    | nil _ _ _ g hg =>
      rw [← List.map_append]
      exact LayKids.nil _ _ _ _ (fun T hT => by simpa [List.append_assoc] using hg T hT)
  | cons k rest ih =>
    intro first pend w0 K h
    cases h with
    | text _ _ s _ _ h' => exact LayKids.text _ _ _ _ _ (ih _ _ _ _ h')
    | node _ _ _ g _ u _ K' hnt hgap hlay hrest =>
      rw [← List.append_assoc, ← List.map_append]
      exact LayKids.node _ _ _ _ _ _ _ _ hnt (by simpa [List.append_assoc] using hgap) hlay hrest

theorem layKids_trail (Tg : List Str) (hT : AllWs Tg.flatten) : ∀ (rest : List Node) (first : Bool)
    (pend : Option Str) (w0 : Str) (K : List Node),
    LayKids first pend w0 rest K → LayKids first pend w0 rest (K ++ Tg.map Node.text) := by
  intro rest
  induction rest with
  | nil =>
    intro first pend w0 K h
    cases h with
    | nil _ _ _ g hg =>
      rw [← List.map_append]
      exact LayKids.nil _ _ _ _ (fun T hT' => by
        simpa [List.append_assoc] using hg (Tg.flatten ++ T) (allWs_append hT hT'))
  | cons k rest ih =>
    intro first pend w0 K h
    cases h with
    | text _ _ s _ _ h' => exact LayKids.text _ _ _ _ _ (ih _ _ _ _ h')
    | node _ _ _ g _ u _ K' hnt hgap hlay hrest =>
      rw [List.append_assoc, List.cons_append]
      exact LayKids.node _ _ _ _ _ _ _ _ hnt hgap hlay (ih _ _ _ _ hrest)

theorem lay_tag_inv {ns name : String} {attrs : List Attr} {kids : List Node} {u : Node}
    (h : Lay (.tag ns name attrs kids) u) : ∃ K, u = .tag ns name attrs K := by
  cases h with
  | plain => exact ⟨_, rfl⟩
  | elem => exact ⟨_, rfl⟩

theorem lay_isText {k u : Node} (h : Lay k u) : u.isText = k.isText := by
  cases h with
  | plain => rfl
  | elem => rfl

abbrev rcS := reduceContentSpec pyWs

theorem reduceTextsF_txt_some {c s : Str} {f : Bool} (L : List Node) (hr : rcS c f L.isEmpty = s) (hs : s ≠ [])
    (hne : c ≠ []) : reduceTextsF rcS f (txt c ++ L) = .text s :: reduceTextsF rcS false L := by
  unfold txt
  rw [if_neg hne, List.singleton_append, reduceTextsF_text, hr, if_neg (by simpa using hs)]

theorem layKids_reduce (T : Str) (hT : AllWs T) : ∀ (rest : List Node), mergedKids rest = true →
    ∀ (first : Bool) (pend : Option Str) (w0 : Str) (K : List Node), LayKids first pend w0 rest K →
    (match pend with
     | some s => rcS s first rest.isEmpty = s ∧ s ≠ [] ∧ headIsText rest = false ∧ TextsOK rcS false rest
     | none => TextsOK rcS first rest ∧ (first = true → rest ≠ [])) →
    (∀ k ∈ rest, k.isText = false → ∀ u, Lay k u → reduceNode rcS .default (normalize u) = normalize k) →
    reduceTextsF rcS first
        (reduceList rcS .default (Ser.mergeKids (.text w0 :: (normalizeList K ++ [.text T])))) =
      (match pend with | some s => [Node.text s] | none => []) ++ rest.map normalize := by
  apply mergedKids_induct
  · intro first pend w0 K h hc _
    cases h with
    | nil _ _ _ g hg =>
      have hg' := hg T hT
      rw [normalizeList_texts, mk_texts_map, mk_texts, mk_single, ← List.append_nil (txt _), reduceList_txt,
        reduceList_nil]
      cases pend with
      | some s =>
        obtain ⟨h1, h2, _, _⟩ := hc
        obtain ⟨hr, hne⟩ := gapOK_some_reduce hg' h1 h2
        rw [reduceTextsF_txt_some [] hr h2 hne]
        rfl
      | none =>
        obtain ⟨_, h2⟩ := hc
        have hs : first = false := by
          cases first
          · rfl
          · exact absurd rfl (h2 rfl)
        subst hs
        have hr : rcS _ false true = [] := gapOK_none_reduce hg' (by simp)
        unfold txt
        split
        · rfl
        · rw [List.append_nil, reduceTextsF_text, List.isEmpty_nil, hr]
          rfl
  · intro s rest _ hh _ ih first pend w0 K h hc hk
    cases h with
    | text _ _ _ _ _ h' =>
      obtain ⟨h1, _⟩ := hc
      rw [textsOK_text] at h1
      rw [ih first (some s) w0 K h' ⟨h1.1, h1.2.1, hh, h1.2.2⟩ (fun k hk' => hk k (List.mem_cons_of_mem _ hk'))]
      simp [normalize]
    | node _ _ _ _ _ _ _ _ hnt => cases hnt
  · intro k rest hkt _ ih first pend w0 K h hc hk
    cases h with
    | text => cases hkt
    | node _ _ _ g _ u _ K' _ hgap hlay hrest =>
      have hu : (normalize u).isText = false := by rw [isText_normalize, lay_isText hlay, hkt]
      have hn : (normalize k).isText = false := by rw [isText_normalize, hkt]
      have hnl : normalizeList (g.map Node.text ++ u :: K') ++ [Node.text T] =
          g.map Node.text ++ (normalize u :: (normalizeList K' ++ [Node.text T])) := by
        rw [normalizeList_append, normalizeList_texts]
        simp [normalizeList]
      rw [hnl, mk_texts_map, mk_text_node _ _ _ hu, reduceList_txt, reduceList_nontext _ _ _ _ hu,
        hk k (by simp) hkt u hlay]
      -- the children behind `k`: their first gap is read from an empty text node on
      have hrec : TextsOK rcS false rest → reduceTextsF rcS false
          (reduceList rcS .default (Ser.mergeKids (normalizeList K' ++ [.text T]))) = rest.map normalize := by
        intro h4
        have := ih false none [] K' hrest ⟨h4, by simp⟩ (fun k hk' => hk k (List.mem_cons_of_mem _ hk'))
        rwa [mergeKids_text_nil] at this
      cases pend with
      | some s =>
        obtain ⟨h1, h2, _, h4⟩ := hc
        rw [textsOK_nontext _ _ _ _ hkt] at h4
        obtain ⟨hr, hne⟩ := gapOK_some_reduce hgap h1 h2
        rw [reduceTextsF_txt_some (normalize k :: _) hr h2 hne, reduceTextsF_nontext _ _ _ _ hn, hrec h4]
        rfl
      | none =>
        obtain ⟨h1, _⟩ := hc
        rw [textsOK_nontext _ _ _ _ hkt] at h1
        rw [reduceTextsF_txt_drop _ _ _ _ _ hn (gapOK_none_reduce hgap (by simp)), hrec h1]
        rfl

theorem wlay_reduce :
    (∀ t, Serializable t → merged t = true → reduceNode rcS .default t = t →
      ∀ u, Lay t u → reduceNode rcS .default (normalize u) = normalize t) ∧
    (∀ l, SerializableList l → mergedAll l = true → ∀ k ∈ l, reduceNode rcS .default k = k →
      ∀ u, Lay k u → reduceNode rcS .default (normalize u) = normalize k) := by
  apply Pretty.node_induct
  · intro ns name attrs kids ih hp hm hr u hu
    obtain ⟨-, -, -, hn, hpk⟩ := hp.tag
    cases hu with
    | plain => exact reduce_normalize_fixed _ _ hp hm _ hr
    | elem _ _ _ _ K T hd hke hT hK =>
      have hdd := directive_default_of_ne attrs hd
      simp only [merged_tag, Bool.and_eq_true] at hm
      obtain ⟨hmk, hma⟩ := hm
      obtain ⟨hfix, hok⟩ := reduced_kids hdd hmk hma hr
      have e1 : normalize (.tag ns name attrs (K ++ [.text T])) =
          .tag ns name (sortAttrs attrs) (Ser.mergeKids (.text [] :: (normalizeList K ++ [.text T]))) := by
        rw [normalize, normalizeList_append, mergeKids_text_nil]
        simp [normalizeList, normalize]
      rw [e1, normalize_tag_of_merged _ _ _ hmk, reduceNode_tag, directive_sortAttrs _ _ hn, hdd, finishKids_default,
        reduceTexts_eq_F _ _ 0 _ (by simp)]
      simp only [beq_self_eq_true]
      rw [layKids_reduce T hT kids hmk true none [] K hK ⟨hok, fun _ => hke⟩
        (fun k hk hnt u hu => ih hpk hma k hk (hfix k hk hnt) u hu)]
      simp
  · intro s _ _ _ u hu; cases hu; simp [normalize]
  · intro s _ _ _ u hu; cases hu; simp [normalize]
  · intro t s _ _ _ u hu; cases hu; simp [normalize]
  · intro _ _ k hk; simp at hk
  · intro k ks ihk ihks hpl hma x hx hrx u hu
    obtain ⟨hp1, hp2⟩ := hpl.cons
    simp only [mergedAll_cons, Bool.and_eq_true] at hma
    rcases List.mem_cons.1 hx with rfl | hx
    · exact ihk hp1 hma.1 hrx u hu
    · exact ihks hp2 hma.2 x hx hrx u hu

theorem lay_serializable :
    (∀ t, Serializable t → ∀ u, Lay t u → Serializable u) ∧
    (∀ l, SerializableList l → ∀ first pend w0 K, LayKids first pend w0 l K → SerializableList K) := by
  apply Pretty.node_induct
  · intro ns name attrs kids ih hs u hu
    cases hu with
    | plain => exact hs
    | elem _ _ _ _ K T _ _ _ hK =>
      obtain ⟨hname, hns, hattrs, hnodup, hkids⟩ := hs.tag
      exact serializable_tag.mpr ⟨hname, hns, hattrs, hnodup,
        serializableList_append (ih hkids _ _ _ _ hK) (serializableList_texts [T])⟩
  · intro s _ u hu; cases hu; trivial
  · intro s _ u hu; cases hu; trivial
  · intro t s _ u hu; cases hu; trivial
  · intro _ first pend w0 K hK
    cases hK with
    | nil _ _ _ g _ => exact serializableList_texts g
  · intro k ks ihk ihks hs first pend w0 K hK
    cases hK with
    | text _ _ s _ _ h' => exact ihks hs.cons.2 _ _ _ _ h'
    | node _ _ _ g _ u _ K' _ _ hlay hrest =>
      exact serializableList_append (serializableList_texts g)
        (serializableList_cons.mpr ⟨ihk hs.cons.1 u hlay, ihks hs.cons.2 _ _ _ _ hrest⟩)

end Delb.Wrapping
