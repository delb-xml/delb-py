import DelbModel.Model.Wrapping
import DelbModel.Lemmas.General
/-!
# Partial correctness of `Except Err` programs

`Post x Q`: if `x` succeeds, its result satisfies `Q`.  What the text-wrapping serializer writes is specified
with it; that it succeeds is shown separately (`Lemmas/WrapFuel`, with `Tot`).
-/
namespace Delb.Wrapping
open Delb.Ser

def Post {α : Type} (x : Except Err α) (Q : α → Prop) : Prop := ∀ a, x = .ok a → Q a

theorem ok_bind {α β} (a : α) (f : α → Except Err β) : (Except.ok a : Except Err α) >>= f = f a := rfl

theorem Post_ok {α} (a : α) (Q : α → Prop) : Post (.ok a : Except Err α) Q ↔ Q a := by
  constructor
  · intro h; exact h a rfl
  · intro h b hb; cases hb; exact h

theorem Post_pure {α} (a : α) (Q : α → Prop) : Post (pure a : Except Err α) Q ↔ Q a := Post_ok a Q

theorem Post_error {α} (e : Err) (Q : α → Prop) : Post (.error e : Except Err α) Q := by
  intro a h; cases h

theorem Post_throw {α} (e : Err) (Q : α → Prop) : Post (throw e : Except Err α) Q := by
  intro a h; cases h

theorem Post_bind {α β} (x : Except Err α) (f : α → Except Err β) (Q : β → Prop) :
    Post (x >>= f) Q ↔ Post x (fun a => Post (f a) Q) := by
  cases x with
  | error e => exact ⟨fun _ => Post_error _ _, fun _ => Post_error _ _⟩
  | ok a => exact ⟨fun h b hb => by cases hb; exact h, fun h => h a rfl⟩

theorem Post_mono {α} {x : Except Err α} {Q R : α → Prop} (h : Post x Q) (hqr : ∀ a, Q a → R a) : Post x R :=
  fun a ha => hqr a (h a ha)

theorem Post_bind_of {α β} {x : Except Err α} {f : α → Except Err β} {R : α → Prop} {Q : β → Prop}
    (hx : Post x R) (hf : ∀ a, R a → Post (f a) Q) : Post (x >>= f) Q :=
  (Post_bind x f Q).2 (Post_mono hx hf)

theorem Post_ite {α} {c : Prop} [Decidable c] {x y : Except Err α} {Q : α → Prop} (hx : c → Post x Q)
    (hy : ¬c → Post y Q) : Post (if c then x else y) Q := by
  by_cases h : c
  · rw [if_pos h]; exact hx h
  · rw [if_neg h]; exact hy h

theorem Post_of_eq {α} {x : Except Err α} {Q : α → Prop} {a : α} (h : x = .ok a) (hp : Post x Q) : Q a := hp a h

theorem Post_and {α} {x : Except Err α} {Q R : α → Prop} (h1 : Post x Q) (h2 : Post x R) :
    Post x (fun a => Q a ∧ R a) := fun a ha => ⟨h1 a ha, h2 a ha⟩

theorem Post_self {α} (x : Except Err α) : Post x (fun a => x = .ok a) := fun _ h => h

theorem Post_true {α} (x : Except Err α) : Post x (fun _ => True) := fun _ _ => trivial

end Delb.Wrapping
