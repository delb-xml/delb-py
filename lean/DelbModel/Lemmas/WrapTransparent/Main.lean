import DelbModel.Lemmas.WrapTransparent.MachineSpec
import DelbModel.Lemmas.WrapTransparent.Text
/-!
# C03 (width ≥ 1): machine half and structural half combined
-/
namespace Delb.Wrapping
open Delb.Ser Delb.WS Delb.Pretty

theorem withAd_sep (ad : List (Str × Str)) (toks : List Tok) (h : CharsSep toks) : CharsSep (withAd ad toks) := by
  unfold withAd
  split
  · rename_i qn a sc rest
    cases rest with
    | nil => trivial
    | cons b r => exact ⟨fun hx => by simp [isCharsTok] at hx, h.2⟩
  · exact h

theorem wrapRoot_preserve (o : Opts) (width : Nat) (m : Dict) (ns name : String)
    (attrs : List Attr) (kids : List Node) (hmerged : merged (.tag ns name attrs kids) = true)
    (hd : directive attrs .default = .preserve)
    (ps : List Piece) (h : wrapRoot o width m (.tag ns name attrs kids) = .ok ps) :
    emitRoot m (.tag ns name attrs kids) = .ok (eraseAll ps) := by
  obtain ⟨ad, st, had, hst, rfl⟩ := wrapRoot_ok h
  rw [prettySerializeTag_succ, getNode_eq (show nodeAt (Node.tag ns name attrs kids) [] = _ from rfl), ok_bind] at hst
  simp only [show (directive attrs Mode.default == Mode.preserve) = true by rw [hd]; rfl, if_true] at hst
  cases hemit : emitNode m (.tag ns name attrs kids) with
  | error err => rw [hemit] at hst; cases hst
  | ok toks =>
    rw [hemit, ok_bind] at hst
    cases hst
    obtain ⟨pp, ad', ks, _, _, _, hform⟩ := emitNode_tag_inv hemit
    obtain ⟨hsep, _⟩ := (emit_sep m).1 _ hmerged toks hemit
    have hhead : ∀ t ∈ (withAd (declarations m ++ ad) toks).head?, isCharsTok t = false := by
      rw [hform]
      intro t ht
      split at ht <;> (simp [withAd] at ht; subst ht; rfl)
    obtain ⟨w1, _⟩ := writeToks_out (withAd (declarations m ++ ad) toks) {}
      (Or.inr ⟨withAd_sep _ _ hsep, Or.inr hhead⟩) (fun s hs => (emit_chars_ne m).1 _ _ hemit s (withAd_chars _ _ s hs))
    rw [emitRoot_withAd hemit had, w1]
    simp [eraseAll_verbatim]

/-- **whitespace transparency of the text-wrapping serializer** for indentation strings without a newline:
    the output reads back as a laid-out tree (machine half), whose reduction is the original (structural half).
    Of the prefix map only what reading back needs (`MapCtx`) is assumed, not that it covers the tree. -/
theorem wrapped_transparent (o : Opts) (ho : IndentOk o) (hnl : '\n' ∉ o.indent) (width : Nat) (hw : 1 ≤ width)
    (m : Dict) (hm : MapCtx m) (t : Node) (htag : t.isTag = true) (hs : Serializable t)
    (hr : Reduced t) (ps : List Piece) (h : wrapRoot o width m t = .ok ps) :
    ∃ u, build (eraseAll ps) = some u ∧ reduceSpec pyWs u = normalize t := by
  cases t with
  | text s => cases htag
  | comment s => cases htag
  | pi tg s => cases htag
  | tag ns name attrs kids =>
    obtain ⟨u, hlay, hemit⟩ : ∃ u, Lay (.tag ns name attrs kids) u ∧ emitRoot m u = .ok (eraseAll ps) := by
      by_cases hd : directive attrs .default = .preserve
      · exact ⟨_, Lay.plain _, wrapRoot_preserve o width m ns name attrs kids hr.2 hd ps h⟩
      · exact wrapRoot_lay o ho width m ns name attrs kids ⟨hr.2, hr.1⟩ hd (fun fuel => textSpec _ ho hnl hw) ps h
    obtain ⟨K, hu⟩ := lay_tag_inv hlay
    exact ⟨_, build_emitRoot hm u (by subst hu; rfl) (lay_serializable.1 _ hs u hlay) _ hemit,
      wlay_reduce.1 _ hs hr.2 hr.1 u hlay⟩

end Delb.Wrapping
