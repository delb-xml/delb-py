import DelbModel.Model.Wrapping
/-!
# C03 (width ≥ 1): navigation by paths, in terms of the parent's child list
-/
namespace Delb.Wrapping
open Delb.Ser Delb.WS Delb.Pretty

theorem nodeAt_append (root : Node) : ∀ (q p : Path), nodeAt root (q ++ p) = (nodeAt root q).bind (fun n => nodeAt n p) := by
  intro q
  induction q generalizing root with
  | nil => intro p; simp [nodeAt]
  | cons i q ih =>
    intro p
    simp only [List.cons_append, nodeAt]
    cases (kidsOf root)[i]? with
    | none => simp
    | some k => simpa using ih k p

theorem nodeAt_snoc {root : Node} {q : Path} {n : Node} (h : nodeAt root q = some n) (i : Nat) :
    nodeAt root (q ++ [i]) = (kidsOf n)[i]? := by
  rw [nodeAt_append, h]
  simp only [Option.bind_some, nodeAt]
  cases (kidsOf n)[i]? <;> rfl

@[simp] theorem parentOf_snoc (q : Path) (i : Nat) : parentOf (q ++ [i]) = q := by simp [parentOf]
@[simp] theorem indexOf_snoc (q : Path) (i : Nat) : indexOf (q ++ [i]) = i := by simp [indexOf]
@[simp] theorem isEmpty_snoc (q : Path) (i : Nat) : (q ++ [i]).isEmpty = false := by
  cases q <;> simp

section
variable {root : Node} {q : Path} {ns name : String} {attrs : List Attr} {kids : List Node}
  (hq : nodeAt root q = some (.tag ns name attrs kids))
include hq

theorem lenAt_eq : lenAt root q = kids.length := by simp [lenAt, hq, kidsOf]

theorem nodeAt_kid (i : Nat) : nodeAt root (q ++ [i]) = kids[i]? := by
  rw [nodeAt_snoc hq]; rfl

theorem nodeAt_kid_lt {i : Nat} (h : i < kids.length) : nodeAt root (q ++ [i]) = some kids[i] := by
  rw [nodeAt_kid hq, List.getElem?_eq_getElem h]

theorem isLastChild_eq (i : Nat) : isLastChild root (q ++ [i]) = (i + 1 == kids.length) := by
  simp [isLastChild, lenAt_eq hq]

theorem fetchFollowingSibling_eq (i : Nat) :
    fetchFollowingSibling root (q ++ [i]) = if i + 1 < kids.length then some (q ++ [i + 1]) else none := by
  simp [fetchFollowingSibling, lenAt_eq hq]

omit hq in
theorem fetchPrecedingSibling_eq (i : Nat) :
    fetchPrecedingSibling (q ++ [i]) = if i = 0 then none else some (q ++ [i - 1]) := by
  simp [fetchPrecedingSibling]

theorem legitBefore_text (i : Nat) (s : Str) (hk : kids[i]? = some (.text s)) :
    legitBefore root (q ++ [i]) = (i == 0 || firstIsSpace s) := by
  simp only [legitBefore, isEmpty_snoc, Bool.false_eq_true, if_false, indexOf_snoc, nodeAt_kid hq, hk]
  by_cases h : i = 0 <;> simp [h]

theorem legitBefore_nontext (i : Nat) (k : Node) (hk : kids[i]? = some k) (hnt : k.isText = false) :
    legitBefore root (q ++ [i]) =
      (i == 0 || (match kids[i - 1]? with | some (.text s) => lastIsSpace s | _ => false)) := by
  unfold legitBefore
  rw [isEmpty_snoc, indexOf_snoc, nodeAt_kid hq, hk, fetchPrecedingSibling_eq]
  cases i with
  | zero => rfl
  | succ j =>
    rw [if_neg (by simp), if_neg (by simp), if_neg (by omega)]
    cases k with
    | text s => cases hnt
    | _ => simp only [Option.bind_some, nodeAt_kid hq]; rfl

theorem legitAfter_text (i : Nat) (s : Str) (hk : kids[i]? = some (.text s)) :
    legitAfter root (q ++ [i]) = (i + 1 == kids.length || lastIsSpace s) := by
  simp only [legitAfter, isEmpty_snoc, Bool.false_eq_true, if_false, isLastChild_eq hq, nodeAt_kid hq, hk]
  by_cases h : i + 1 = kids.length <;> simp [h]

theorem legitAfter_nontext (i : Nat) (k : Node) (hk : kids[i]? = some k) (hnt : k.isText = false) :
    legitAfter root (q ++ [i]) =
      (i + 1 == kids.length || (match kids[i + 1]? with | some (.text s) => firstIsSpace s | _ => false)) := by
  unfold legitAfter
  rw [isEmpty_snoc, isLastChild_eq hq, nodeAt_kid hq, hk, fetchFollowingSibling_eq hq]
  by_cases h : i + 1 = kids.length
  · simp [h]
  · have hlt : i + 1 < kids.length := by
      have := (List.getElem?_eq_some_iff.1 hk).1
      omega
    rw [if_neg (by simp), if_neg (by simpa using h), if_pos hlt, beq_false_of_ne h, Bool.false_or]
    cases k with
    | text s => cases hnt
    | _ => simp only [Option.bind_some, nodeAt_kid hq]; rfl

end
end Delb.Wrapping
