import DelbModel.Lemmas.PrettyTransparent
/-!
# C03 (width ≥ 1): the character data written between two markup pieces ("gap")

`GapOK t w first last`: the string `w` written where the original has the (reduced) text `t`
(`none`: no text node) is `t` up to whitespace that reduction removes: whitespace in front / behind
only where that is legit, line breaks and indentation in place of single spaces; whitespace reduction of `w`
gives `t` back.
-/
namespace Delb.Wrapping
open Delb.Ser Delb.WS Delb.Pretty

theorem mergedKids_tail {k : Node} {ks : List Node} (h : mergedKids (k :: ks) = true) : mergedKids ks = true := by
  rcases k.text_or_not with ⟨s, rfl⟩ | hk
  · rw [mergedKids_text] at h; simp at h; exact h.2
  · rwa [mergedKids_nontext _ _ hk] at h

theorem textsOK_tail {rc : Str → Bool → Bool → Str} {f : Bool} {k : Node} {ks : List Node}
    (h : TextsOK rc f (k :: ks)) : TextsOK rc false ks := by
  rcases k.text_or_not with ⟨s, rfl⟩ | hk
  · rw [textsOK_text] at h; exact h.2.2
  · rwa [textsOK_nontext _ _ _ _ hk] at h

/-- whitespace before the text of a gap is legit -/
def legB (first : Bool) (t : Option Str) (last : Bool) : Bool :=
  first || (match t with | some s => firstIsSpace s | none => last)

/-- whitespace behind the text of a gap is legit -/
def legA (first : Bool) (t : Option Str) (last : Bool) : Bool :=
  last || (match t with | some s => lastIsSpace s | none => first)

def GapOK (t : Option Str) (w : Str) (first last : Bool) : Prop :=
  match t with
  | none => AllWs w ∧ (w ≠ [] → first = true ∨ last = true)
  | some s => ∃ A Z, AllWs A ∧ AllWs Z ∧ (A ≠ [] → first = true ∨ firstIsSpace s = true) ∧
      (Z ≠ [] → last = true ∨ lastIsSpace s = true) ∧ collapse pyWs w = collapse pyWs (A ++ (s ++ Z))

theorem reduceContentSpec_congr {w w' : Str} (h : collapse pyWs w = collapse pyWs w') (f l : Bool) :
    reduceContentSpec pyWs w f l = reduceContentSpec pyWs w' f l := by
  unfold reduceContentSpec; rw [h]

theorem gapOK_none_reduce {w : Str} {f l : Bool} (h : GapOK none w f l) (hfl : ¬(f = true ∧ l = true)) :
    reduceContentSpec pyWs w f l = [] := by
  obtain ⟨hw, hleg⟩ := h
  rw [reduce_allWs pyWs pyWs_space _ hw]
  by_cases hwe : w = []
  · subst hwe; cases f <;> cases l <;> simp_all
  · have := hleg hwe
    cases f <;> cases l <;> simp_all

theorem collapse_eq_nil {a : Str} (h : collapse pyWs a = []) : a = [] := by
  cases a with
  | nil => rfl
  | cons c a =>
    unfold collapse at h
    rw [collapseAux_cons] at h
    split at h <;> simp at h

theorem fixed_shape {ws : Char → Bool} (hsp : ws ' ' = true) {s : Str} {f l : Bool} (hs : reduceContentSpec ws s f l = s)
    (hne : s ≠ []) :
    (s = [' '] ∧ f = l) ∨
    ∃ pre core post, s = pre ++ (core ++ post) ∧ s ≠ [' '] ∧ (pre = [] ∨ pre = [' ']) ∧
      (post = [] ∨ post = [' ']) ∧ core ≠ [] ∧ HeadNonWs ws core ∧ LastNonWs ws core ∧
      collapse ws core = core ∧ (f = true → pre = []) ∧ (l = true → post = []) := by
  have hO : OnlySp ws s := hs ▸ spec_onlySp ws s f l
  have hN : NoDbl s := hs ▸ spec_noDbl ws hsp s f l
  rcases shape_of_collapsed ws hsp s hO hN with rfl | rfl | ⟨pre, core, post, rfl, hpre, hpost, hcne, hh, hl⟩
  · exact absurd rfl hne
  · refine Or.inl ⟨rfl, ?_⟩
    cases f <;> cases l <;> simp [reduceContentSpec, collapse, collapseAux, hsp, ltrim, rtrim] at hs ⊢
  · have hfix : collapse ws core = core :=
      collapseAux_fixed ws false core (fun c hc => hO c (by simp [hc]))
        (noDbl_append_left _ _ (noDbl_append_right _ _ hN)) (by simp)
    have hred := reduce_sandwich ws hsp pre core post (blank_nil_or_space ws hsp hpre)
      (blank_nil_or_space ws hsp hpost) hfix hcne hh hl f l
    have hsp_pre : sp pre = pre := by rcases hpre with rfl | rfl <;> simp
    have hsp_post : sp post = post := by rcases hpost with rfl | rfl <;> simp
    rw [hs, hsp_pre, hsp_post] at hred
    obtain ⟨a, tl, rfl⟩ := List.exists_cons_of_ne_nil hcne
    have ha : ws a = false := by simpa using hh
    have ha' : a ≠ ' ' := by intro h; subst h; simp [hsp] at ha
    refine Or.inr ⟨pre, a :: tl, post, rfl, ?_, hpre, hpost, hcne, hh, hl, hfix, ?_, ?_⟩
    · rcases hpre with rfl | rfl <;> simp [ha']
    · rintro rfl
      rcases hpre with rfl | rfl
      · rfl
      · simp at hred; exact absurd hred.1.symm ha'
    · rintro rfl
      rcases hpost with rfl | rfl
      · rfl
      · have := congrArg List.length hred
        cases f <;> simp at this
        omega

theorem gapOK_some_reduce {s w : Str} {f l : Bool} (h : GapOK (some s) w f l)
    (hs : reduceContentSpec pyWs s f l = s) (hne : s ≠ []) :
    reduceContentSpec pyWs w f l = s ∧ w ≠ [] := by
  obtain ⟨A, Z, hA, hZ, hlegA, hlegZ, hc⟩ := h
  have hw : w ≠ [] := by
    rintro rfl
    exact hne (List.append_eq_nil_iff.1 (List.append_eq_nil_iff.1 (collapse_eq_nil hc.symm)).2).1
  refine ⟨?_, hw⟩
  rw [reduceContentSpec_congr hc]
  rcases fixed_shape pyWs_space hs hne with ⟨rfl, rfl⟩ |
    ⟨pre, core, post, rfl, _, hpre, hpost, hcne, hh, hl, hfix, hstart, hend⟩
  · rw [reduce_allWs pyWs pyWs_space _ (allWs_append hA (allWs_append allWs_space hZ))]
    cases f <;> simp [sp]
  · have hfirst := firstIsSpace_shape (post := post) hpre hcne hh
    have hlast := lastIsSpace_shape (pre := pre) hpost hcne hl
    have hpreW : AllWs pre := blank_nil_or_space pyWs pyWs_space hpre
    have hpostW : AllWs post := blank_nil_or_space pyWs pyWs_space hpost
    have key : A ++ ((pre ++ (core ++ post)) ++ Z) = (A ++ pre) ++ (core ++ (post ++ Z)) := by
      simp only [List.append_assoc]
    rw [key, reduce_sandwich pyWs pyWs_space _ core _ (allWs_append hA hpreW) (allWs_append hpostW hZ) hfix hcne hh hl]
    -- whitespace in front of the text is there only if it is legit: then it replaces `pre`, and likewise behind
    have h1 : (if f = true then [] else sp (A ++ pre)) = pre := by
      cases f
      · rcases hpre with rfl | rfl
        · have : A = [] := by
            by_cases hA0 : A = []
            · exact hA0
            · rcases hlegA hA0 with h | h
              · cases h
              · rw [hfirst] at h; simp at h
          simp [this]
        · cases A <;> simp [sp]
      · simp [hstart rfl]
    have h2 : (if l = true then [] else sp (post ++ Z)) = post := by
      cases l
      · rcases hpost with rfl | rfl
        · have : Z = [] := by
            by_cases hZ0 : Z = []
            · exact hZ0
            · rcases hlegZ hZ0 with h | h
              · cases h
              · rw [hlast] at h; simp at h
          simp [this]
        · simp [sp]
      · simp [hend rfl]
    rw [h1, h2]

theorem lastIsSpace_nil : lastIsSpace [] = false := rfl
theorem lastIsSpace_concat (a : Str) (c : Char) : lastIsSpace (a ++ [c]) = pyWs c := by
  simp [lastIsSpace]
theorem lastIsSpace_append_ne (a b : Str) (hb : b ≠ []) : lastIsSpace (a ++ b) = lastIsSpace b := by
  unfold lastIsSpace
  rw [getLast?_append_ne _ _ hb]

theorem lastIsSpace_cons (c : Char) (a : Str) :
    lastIsSpace (c :: a) = if a = [] then pyWs c else lastIsSpace a := by
  by_cases ha : a = []
  · subst ha; rfl
  · rw [if_neg ha, show c :: a = [c] ++ a from rfl, lastIsSpace_append_ne _ _ ha]

theorem lastIsSpace_eq (a : Str) : (a.getLast?.map pyWs).getD false = lastIsSpace a := by
  unfold lastIsSpace
  cases a.getLast? <;> rfl

theorem lastIsSpace_collapse (a : Str) : lastIsSpace (collapse pyWs a) = lastIsSpace a := by
  induction a using snoc_induction with
  | nil => rfl
  | snoc a c ih =>
    unfold collapse at ih ⊢
    rw [collapseAux_append, lastIsSpace_eq, lastIsSpace_concat]
    by_cases hc : pyWs c = true
    · by_cases hl : lastIsSpace a = true
      · simp [hl, collapseAux, hc, ih]
      · have hl' : lastIsSpace a = false := by simpa using hl
        simp only [hl', collapseAux, hc, if_true, Bool.false_eq_true, if_false]
        rw [lastIsSpace_concat, pyWs_space]
    · have hc' : pyWs c = false := by simpa using hc
      simp only [collapseAux, hc', Bool.false_eq_true, if_false]
      rw [lastIsSpace_concat, hc']

theorem collapse_append (a x : Str) :
    collapse pyWs (a ++ x) = collapse pyWs a ++ collapseAux pyWs (lastIsSpace (collapse pyWs a)) x := by
  have := lastIsSpace_collapse a
  unfold collapse at this ⊢
  rw [collapseAux_append, lastIsSpace_eq, this]

theorem collapse_congr_right {a a' : Str} (h : collapse pyWs a = collapse pyWs a') (x : Str) :
    collapse pyWs (a ++ x) = collapse pyWs (a' ++ x) := by
  rw [collapse_append, collapse_append, h]

theorem lastIsSpace_of_collapse_eq {a a' : Str} (h : collapse pyWs a = collapse pyWs a') :
    lastIsSpace a = lastIsSpace a' := by
  rw [← lastIsSpace_collapse a, ← lastIsSpace_collapse a', h]

theorem gapOK_append_ws {s w x : Str} {f l : Bool} (h : GapOK (some s) w f l) (hx : AllWs x)
    (hleg : x ≠ [] → l = true ∨ lastIsSpace s = true) : GapOK (some s) (w ++ x) f l := by
  obtain ⟨A, Z, hA, hZ, h1, h2, hc⟩ := h
  refine ⟨A, Z ++ x, hA, allWs_append hZ hx, h1, ?_, ?_⟩
  · intro hne
    by_cases hz : Z = []
    · subst hz; exact hleg (by simpa using hne)
    · exact h2 hz
  · have := collapse_congr_right hc x
    simpa [List.append_assoc] using this

theorem gapOK_ends_ws {s w : Str} {f l : Bool} (h : GapOK (some s) w f l) (hs : s ≠ [])
    (hw : lastIsSpace w = true) : l = true ∨ lastIsSpace s = true := by
  obtain ⟨A, Z, hA, hZ, h1, h2, hc⟩ := h
  by_cases hz : Z = []
  · subst hz
    rw [lastIsSpace_of_collapse_eq hc] at hw
    simp only [List.append_nil] at hw
    rw [lastIsSpace_append_ne _ _ hs] at hw
    exact Or.inr hw
  · exact h2 hz

/-- the text `s' ++ " "` of the gap was written without its trailing space -/
def GapOwed (s w : Str) (f : Bool) : Prop :=
  ∃ s', s = s' ++ [' '] ∧ s' ≠ [] ∧ lastIsSpace s' = false ∧
    ∃ A, AllWs A ∧ (A ≠ [] → f = true ∨ firstIsSpace s = true) ∧ collapse pyWs w = collapse pyWs (A ++ s')

theorem collapseAux_false_ws_ne (x : Str) (hx : AllWs x) (hne : x ≠ []) : collapseAux pyWs false x = [' '] := by
  rw [collapseAux_false_allWs pyWs x hx]
  cases x with
  | nil => exact absurd rfl hne
  | cons => simp

theorem gapOwed_append_ws {s w x : Str} {f l : Bool} (h : GapOwed s w f) (hx : AllWs x) (hne : x ≠ []) :
    GapOK (some s) (w ++ x) f l := by
  obtain ⟨s', rfl, hs', hl, A, hA, h1, hc⟩ := h
  refine ⟨A, x, hA, hx, h1, fun _ => Or.inr (by rw [lastIsSpace_concat]; exact pyWs_space), ?_⟩
  rw [collapse_congr_right hc x]
  have e1 : A ++ s' ++ x = (A ++ s') ++ x := rfl
  have e2 : A ++ (s' ++ [' '] ++ x) = (A ++ s') ++ ([' '] ++ x) := by simp [List.append_assoc]
  rw [e2, collapse_append, collapse_append (A ++ s') ([' '] ++ x)]
  congr 1
  have hls : lastIsSpace (collapse pyWs (A ++ s')) = false := by
    rw [lastIsSpace_collapse, lastIsSpace_append_ne _ _ hs', hl]
  rw [hls, collapseAux_false_ws_ne x hx hne,
    collapseAux_false_ws_ne _ (allWs_append allWs_space hx) (by simp)]

end Delb.Wrapping
