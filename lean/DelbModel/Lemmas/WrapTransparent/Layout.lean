import DelbModel.Lemmas.WrapTransparent.Hoare
import DelbModel.Lemmas.WrapTransparent.Machine
import DelbModel.Lemmas.PrettyTransparent
/-!
# C03 (width ≥ 1): `write` in closed form; layout pieces that consist of whitespace (`LW`)

That the whole output of `wrapRoot` is `LW` comes out of the walk through the methods that also shows totality
(`Lemmas/WrapFuel/Machine.lean`).
-/
namespace Delb.Wrapping
open Delb.Ser Delb.WS Delb.Pretty

def LW (ps : List Piece) : Prop := ∀ s, Piece.layout s ∈ ps → AllWs s

theorem LW_nil : LW [] := by intro s h; simp at h
theorem LW_append {a b : List Piece} (ha : LW a) (hb : LW b) : LW (a ++ b) := by
  intro s h
  rcases List.mem_append.1 h with h | h
  · exact ha s h
  · exact hb s h
theorem LW_cons_layout {s : Str} {ps : List Piece} (hs : AllWs s) (h : LW ps) : LW (.layout s :: ps) := by
  intro t ht
  rcases List.mem_cons.1 ht with h' | h'
  · cases h'; exact hs
  · exact h t h'
theorem LW_cons_other {p : Piece} {ps : List Piece} (hp : ∀ s, p ≠ .layout s) (h : LW ps) : LW (p :: ps) := by
  intro t ht
  rcases List.mem_cons.1 ht with h' | h'
  · exact absurd h'.symm (hp t)
  · exact h t h'
theorem LW_tail {p : Piece} {ps : List Piece} (h : LW (p :: ps)) : LW ps :=
  fun s hs => h s (List.mem_cons_of_mem _ hs)
theorem LW_filter {ps : List Piece} (f : Piece → Bool) (h : LW ps) : LW (ps.filter f) :=
  fun s hs => h s (List.mem_filter.1 hs).1

theorem allWs_dropWhile {s : Str} (f : Char → Bool) (h : AllWs s) : AllWs (s.dropWhile f) :=
  fun c hc => h c ((List.dropWhile_suffix f).subset hc)

theorem stripNl_layout (s : Str) (rest : List Piece) :
    stripNl (.layout s :: rest) =
      if (s.dropWhile isNl).isEmpty then stripNl rest else .layout (s.dropWhile isNl) :: rest := by
  simp [stripNl]
theorem stripNl_text (s : Str) (rest : List Piece) :
    stripNl (.text s :: rest) =
      if (s.dropWhile isNl).isEmpty then stripNl rest else .text (s.dropWhile isNl) :: rest := by
  simp [stripNl]
@[simp] theorem stripNl_nil : stripNl [] = [] := by simp [stripNl]

theorem dropWhile_isNl_id {s : Str} (h : '\n' ∉ s) : s.dropWhile isNl = s := by
  cases s with
  | nil => rfl
  | cons c cs =>
    have : c ≠ '\n' := by intro hc; subst hc; simp at h
    have hb : (c == '\n') = false := by simpa using this
    simp [List.dropWhile, isNl, hb]

theorem stripNl_single {x : Piece} (h : ∀ s, x ≠ .text s ∧ x ≠ .layout s ∧ x ≠ .verbatim [.chars s]) :
    stripNl [x] = [x] := by
  unfold stripNl
  split
  · rename_i h'; cases h'
  · rename_i s _ h'; exact absurd (List.cons.inj h').1 (h s).1
  · rename_i s _ h'; exact absurd (List.cons.inj h').1 (h s).2.1
  · rename_i s _ h'; exact absurd (List.cons.inj h').1 (h s).2.2
  · rfl

theorem LW_stripNl : ∀ {ps : List Piece}, LW ps → LW (stripNl ps)
  | [], h => by rw [stripNl_nil]; exact h
  | p :: ps, h => by
    unfold stripNl
    split
    · exact LW_nil
    · rename_i s rest heq
      cases heq
      dsimp only
      split
      · exact LW_stripNl (LW_tail h)
      · exact LW_cons_other (by intro s; simp) (LW_tail h)
    · rename_i s rest heq
      cases heq
      dsimp only
      split
      · exact LW_stripNl (LW_tail h)
      · exact LW_cons_layout (allWs_dropWhile _ (h s (by simp))) (LW_tail h)
    · rename_i s rest heq
      cases heq
      dsimp only
      split
      · exact LW_stripNl (LW_tail h)
      · exact LW_cons_other (by intro s; simp) (LW_tail h)
    · exact h

/-- the pieces `write` looks at: leading newlines stripped at the beginning of a line, empty strings dropped -/
def prep (st : St) (ps : List Piece) : List Piece :=
  (if !st.preserveSpace && st.offset == 0 then stripNl ps else ps).filter (fun p => !isEmptyPiece p)

/-- the pieces `write` appends -/
def written (st : St) (ps : List Piece) : List Piece :=
  if (renderP (prep st ps)).isEmpty then [] else prep st ps

theorem write_eq (st : St) (ps : List Piece) :
    write st ps = if (renderP (prep st ps)).isEmpty then st
      else { st with out := st.out ++ prep st ps, offset := newOffset st.offset (renderP (prep st ps)) } := rfl

theorem write_out (st : St) (ps : List Piece) : (write st ps).out = st.out ++ written st ps := by
  rw [write_eq]; unfold written
  by_cases h : (renderP (prep st ps)).isEmpty = true <;> simp [h]

@[simp] theorem write_level (st : St) (ps : List Piece) : (write st ps).level = st.level := by
  rw [write_eq]; by_cases h : (renderP (prep st ps)).isEmpty = true <;> simp [h]
@[simp] theorem write_unwritten (st : St) (ps : List Piece) : (write st ps).unwritten = st.unwritten := by
  rw [write_eq]; by_cases h : (renderP (prep st ps)).isEmpty = true <;> simp [h]
@[simp] theorem write_space (st : St) (ps : List Piece) : (write st ps).space = st.space := by
  rw [write_eq]; by_cases h : (renderP (prep st ps)).isEmpty = true <;> simp [h]
@[simp] theorem write_preserveSpace (st : St) (ps : List Piece) : (write st ps).preserveSpace = st.preserveSpace := by
  rw [write_eq]; by_cases h : (renderP (prep st ps)).isEmpty = true <;> simp [h]

theorem write_single (st : St) (x : Piece) (hs : st.preserveSpace = false → st.offset = 0 → stripNl [x] = [x])
    (he : isEmptyPiece x = false) (hr : renderPiece x ≠ []) :
    write st [x] = { st with out := st.out ++ [x], offset := newOffset st.offset (renderPiece x) } := by
  have hprep : prep st [x] = [x] := by
    unfold prep
    split
    · rename_i hc
      simp only [Bool.and_eq_true, Bool.not_eq_true', beq_iff_eq] at hc
      rw [hs hc.1 hc.2, List.filter_cons, he]; rfl
    · rw [List.filter_cons, he]; rfl
  have hrp : renderP [x] = renderPiece x := by simp
  rw [write_eq, hprep, hrp, if_neg (by simpa using hr)]

theorem prep_LW {st : St} {ps : List Piece} (hp : LW ps) : LW (prep st ps) := by
  unfold prep
  apply LW_filter
  by_cases h : (!st.preserveSpace && st.offset == 0) = true
  · rw [if_pos h]; exact LW_stripNl hp
  · rw [if_neg h]; exact hp

theorem written_LW {st : St} {ps : List Piece} (hp : LW ps) : LW (written st ps) := by
  unfold written
  by_cases h : (renderP (prep st ps)).isEmpty = true
  · rw [if_pos h]; exact LW_nil
  · rw [if_neg h]; exact prep_LW hp

theorem write_LW {st : St} {ps : List Piece} (h : LW st.out) (hp : LW ps) : LW (write st ps).out := by
  rw [write_out]; exact LW_append h (written_LW hp)

theorem LW_nl : LW [nl] := LW_cons_layout allWs_nl LW_nil

theorem LW_single_other {p : Piece} (hp : ∀ s, p ≠ .layout s) : LW [p] := LW_cons_other hp LW_nil

theorem writeToks_LW : ∀ (ts : List Tok) {st : St}, LW st.out → LW (writeToks st ts).out := by
  intro ts
  induction ts with
  | nil => intro st h; exact h
  | cons t ts ih =>
    intro st h
    simp only [writeToks, List.foldl_cons]
    exact ih (write_LW h (LW_single_other (by intro s; simp)))

theorem allWs_rtrim {s : Str} (h : AllWs s) : AllWs (rtrim pyWs s) := by
  intro c hc
  unfold rtrim at hc
  rw [List.mem_reverse] at hc
  exact h c (List.mem_reverse.1 ((List.dropWhile_suffix _).subset hc))

theorem LW_textPieces {pre body : Str} (hpre : AllWs pre) (r n : Bool) : LW (textPieces pre body r n) := by
  unfold textPieces textPiece
  simp only
  apply LW_append
  · apply LW_cons_layout
    · exact allWs_ite (allWs_rtrim hpre) hpre
    · exact LW_single_other (by intro s; simp)
  · exact (by split; exact LW_nl; exact LW_nil)

theorem LW_line {pre line : Str} (hpre : AllWs pre) : LW [.layout pre, textPiece line, nl] :=
  LW_cons_layout hpre (LW_cons_other (by intro s; simp [textPiece]) LW_nl)
theorem LW_lastLine {pre line : Str} (hpre : AllWs pre) : LW [.layout pre, textPiece line] :=
  LW_cons_layout hpre (LW_single_other (by intro s; simp [textPiece]))

theorem writeLines_LW {pre : Str} (hpre : AllWs pre) : ∀ (lines : List Str) {st : St}, LW st.out →
    LW (writeLines pre st lines).out := by
  intro lines
  induction lines with
  | nil => intro st h; exact h
  | cons l ls ih =>
    intro st h
    simp only [writeLines, List.foldl_cons]
    apply ih
    split
    · exact write_LW h LW_nl
    · exact write_LW h (LW_line hpre)

end Delb.Wrapping
