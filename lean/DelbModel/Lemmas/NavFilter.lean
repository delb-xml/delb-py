import DelbModel.Model.NavFilter
import DelbModel.Lemmas.Nav
/-!
# The filtered iterators restrict the unfiltered sequences (C05)
-/
namespace Delb.Nav
open Delb.Edit

theorem yieldIf_eq (p : PTree → Bool) (l : List PTree) : yieldIf p l = l.filter p := by
  induction l with
  | nil => simp [yieldIf]
  | cons c rest ih => by_cases h : p c <;> simp [yieldIf, h, ih]

theorem childrenLoopF_eq (p : PTree → Bool) (l : List PTree) : childrenLoopF p l = l.filter p := by
  induction l with
  | nil => simp [childrenLoopF]
  | cons c rest ih => by_cases h : p c <;> simp [childrenLoopF, h, ih]

theorem descLoopF_eq (p : PTree → Bool) (fuel : Nat) (cand : List PTree) (stack : List (List PTree)) :
    descLoopF p fuel cand stack = (descLoop fuel cand stack).filter p := by
  induction fuel generalizing cand stack with
  | zero => simp [descLoopF, descLoop]
  | succ fuel ih =>
    cases cand with
    | nil =>
      cases stack with
      | nil => simp [descLoopF, descLoop]
      | cons s stack => simp only [descLoopF, descLoop]; exact ih s stack
    | cons n rest => cases n <;> simp only [descLoopF, descLoop, List.filter_cons, ih] <;> split <;> rfl

theorem ancestorsRecF_eq (p : PTree → Bool) (root : PTree) (path : List Nat) (k : Nat) :
    ancestorsRecF p root path k =
      ((downFrom k).filterMap (fun j => getAtP root (path.take j))).filter p := by
  induction k with
  | zero => simp [ancestorsRecF, downFrom_zero]
  | succ k ih =>
    rw [ancestorsRecF, downFrom_succ, List.filterMap_cons]
    cases h : getAtP root (path.take k) with
    | none => simp [ih]
    | some parent => by_cases hp : p parent <;> simp [hp, ih]

theorem nextOf_eq (l : List PTree) : nextOf l = l.head? := by
  cases l <;> simp [nextOf]

theorem foldl_last (l : List PTree) (init : Option PTree) :
    l.foldl (fun _ c => some c) init = (match l.getLast? with | some x => some x | none => init) := by
  induction l generalizing init with
  | nil => simp
  | cons c rest ih =>
    rw [List.foldl_cons, ih]
    cases rest with
    | nil => simp
    | cons d rest' =>
      rw [List.getLast?_cons_cons]
      cases h : (d :: rest').getLast? with
      | none => simp at h
      | some x => rfl

theorem foldl_enum_len (l : List PTree) (k init : Nat) :
    (l.zipIdx k).foldl (fun _ x => x.2) init = if l = [] then init else k + l.length - 1 := by
  induction l generalizing k init with
  | nil => simp
  | cons c rest ih =>
    rw [List.zipIdx_cons, List.foldl_cons, ih]
    cases rest with
    | nil => simp
    | cons d rest' => simp; omega

theorem getLoop_add (l : List PTree) (k j : Nat) : getLoop ((k + j : Nat) : Int) l k = l[j]? := by
  induction l generalizing k j with
  | nil => rfl
  | cons c rest ih =>
    cases j with
    | zero => rw [Nat.add_zero, getLoop, if_pos rfl]; rfl
    | succ j =>
      rw [getLoop, if_neg (by omega), show k + (j + 1) = k + 1 + j by omega, ih]
      rfl

theorem getLoop_lt (item : Int) (l : List PTree) (k : Nat) (h : item < k) : getLoop item l k = none := by
  induction l generalizing k with
  | nil => rfl
  | cons c rest ih => rw [getLoop, if_neg (by omega), ih (k + 1) (by omega)]

theorem indexLoop_past (p : PTree → Bool) (self : Nat) (l : List PTree) (pos index : Nat) (h : self < pos) :
    indexLoop p self l pos index = none := by
  induction l generalizing pos index with
  | nil => rfl
  | cons c rest ih =>
    have hne : pos ≠ self := by omega
    by_cases hc : p c <;> simp only [indexLoop, hc, if_true, if_neg hne, Bool.false_eq_true, if_false] <;>
      exact ih _ _ (by omega)

theorem indexLoop_eq (p : PTree → Bool) (l : List PTree) (pos d index : Nat) :
    indexLoop p (pos + d) l pos index =
      match l[d]? with
      | some n => if p n then some (index + ((l.take d).filter p).length) else none
      | none => none := by
  induction l generalizing pos d index with
  | nil => simp [indexLoop]
  | cons c rest ih =>
    cases d with
    | zero => by_cases hc : p c <;> simp [indexLoop, hc, indexLoop_past]
    | succ d =>
      have h : pos + (d + 1) = pos + 1 + d := by omega
      by_cases hc : p c
      · simp only [indexLoop, hc, if_true, h, ih, List.getElem?_cons_succ, List.take_succ_cons, List.filter_cons,
          List.length_cons]
        rw [if_neg (by omega)]
        cases rest[d]? with
        | none => rfl
        | some n => by_cases hn : p n <;> simp [hn]; omega
      · simp only [indexLoop, hc, Bool.false_eq_true, if_false, h, ih, List.getElem?_cons_succ, List.take_succ_cons,
          List.filter_cons]

theorem indexInF_eq (p : PTree → Bool) (t : PTree) (i : Nat) (n : PTree) (hn : t.kids[i]? = some n) :
    indexInF p t i = if p n then some ((t.kids.take i).filter p).length else none := by
  rw [indexInF, ← Nat.zero_add i, indexLoop_eq, hn]
  simp

theorem fetchFollowingSiblingLoop_find (p : PTree → Bool) (l : List PTree) :
    (fetchFollowingSiblingLoop p l).map (·.1) = l.find? p := by
  induction l with
  | nil => simp [fetchFollowingSiblingLoop]
  | cons c rest ih => by_cases h : p c <;> simp [fetchFollowingSiblingLoop, h, ih]

theorem fetchFollowingSiblingLoop_some (p : PTree → Bool) (l : List PTree) (n : PTree) (l' : List PTree)
    (h : fetchFollowingSiblingLoop p l = some (n, l')) :
    ∃ skipped, l = skipped ++ n :: l' ∧ (∀ x ∈ skipped, p x = false) ∧ p n = true := by
  induction l with
  | nil => simp [fetchFollowingSiblingLoop] at h
  | cons c rest ih =>
    by_cases hc : p c
    · simp [fetchFollowingSiblingLoop, hc] at h
      obtain ⟨rfl, rfl⟩ := h
      exact ⟨[], by simp, by simp, hc⟩
    · simp [fetchFollowingSiblingLoop, hc] at h
      obtain ⟨sk, h1, h2, h3⟩ := ih h
      refine ⟨c :: sk, by simp [h1], ?_, h3⟩
      intro x hx
      rcases List.mem_cons.mp hx with rfl | hx
      · simpa using hc
      · exact h2 x hx

theorem iterateFollowingSiblingsLoop_eq (p : PTree → Bool) (fuel : Nat) (l : List PTree)
    (hf : l.length < fuel) : iterateFollowingSiblingsLoop p fuel l = l.filter p := by
  induction l generalizing fuel with
  | nil =>
    cases fuel with
    | zero => omega
    | succ f => simp [iterateFollowingSiblingsLoop, fetchFollowingSiblingLoop]
  | cons c rest ih =>
    obtain ⟨f, rfl⟩ : ∃ f, fuel = f + 1 := ⟨fuel - 1, by omega⟩
    simp only [List.length_cons] at hf
    by_cases hc : p c
    · simp [iterateFollowingSiblingsLoop, fetchFollowingSiblingLoop, hc, ih f (by omega)]
    · -- a sibling that does not pass is skipped inside `fetch_following_sibling`: same round, same fuel
      have := ih (f + 1) (by omega)
      simp only [iterateFollowingSiblingsLoop] at this ⊢
      simp [fetchFollowingSiblingLoop, hc, this]

theorem fetchPrecedingSiblingRec_eq_following (p : PTree → Bool) (l : List PTree) :
    fetchPrecedingSiblingRec p l = fetchFollowingSiblingLoop p l := by
  induction l with
  | nil => simp [fetchPrecedingSiblingRec, fetchFollowingSiblingLoop]
  | cons c rest ih => by_cases h : p c <;> simp [fetchPrecedingSiblingRec, fetchFollowingSiblingLoop, h, ih]

theorem iteratePrecedingSiblingsLoop_eq_following (p : PTree → Bool) (fuel : Nat) (l : List PTree) :
    iteratePrecedingSiblingsLoop p fuel l = iterateFollowingSiblingsLoop p fuel l := by
  induction fuel generalizing l with
  | zero => simp [iteratePrecedingSiblingsLoop, iterateFollowingSiblingsLoop]
  | succ fuel ih =>
    rw [iteratePrecedingSiblingsLoop, iterateFollowingSiblingsLoop, fetchPrecedingSiblingRec_eq_following]
    cases fetchFollowingSiblingLoop p l with
    | none => rfl
    | some r => simp [ih]

theorem iteratePrecedingSiblingsLoop_eq (p : PTree → Bool) (fuel : Nat) (l : List PTree)
    (hf : l.length < fuel) : iteratePrecedingSiblingsLoop p fuel l = l.filter p := by
  rw [iteratePrecedingSiblingsLoop_eq_following, iterateFollowingSiblingsLoop_eq p fuel l hf]

/-- the pointer that `fetch_following_sibling` hands back is the following-sibling pointer of the
    node it found: the next round of `iterate_following_siblings` starts from that node -/
theorem fetchFollowingSibling_pointer (p : PTree → Bool) (kids : List PTree) (i : Nat) (n : PTree)
    (l' : List PTree) (h : fetchFollowingSiblingLoop p (kids.drop (i + 1)) = some (n, l')) :
    ∃ k, i < k ∧ kids[k]? = some n ∧ l' = kids.drop (k + 1) := by
  obtain ⟨sk, h1, _, _⟩ := fetchFollowingSiblingLoop_some p _ n l' h
  refine ⟨i + 1 + sk.length, by omega, ?_, ?_⟩
  · rw [← List.getElem?_drop, h1, List.getElem?_append_right (Nat.le_refl _), Nat.sub_self]
    rfl
  · rw [Nat.add_assoc (i + 1), ← List.drop_drop, h1]
    simp

theorem fetchPrecedingSibling_pointer (p : PTree → Bool) (kids : List PTree) (i : Nat) (n : PTree)
    (l' : List PTree) (h : fetchPrecedingSiblingRec p (kids.take i).reverse = some (n, l')) :
    ∃ k, k < i ∧ kids[k]? = some n ∧ l' = (kids.take k).reverse := by
  rw [fetchPrecedingSiblingRec_eq_following] at h
  obtain ⟨sk, h1, _, _⟩ := fetchFollowingSiblingLoop_some p _ n l' h
  have h2 : kids.take i = l'.reverse ++ n :: sk.reverse := by simpa using congrArg List.reverse h1
  have hi : l'.length < i := by
    have h3 := congrArg List.length h2
    have := List.length_take_le i kids
    simp only [List.length_append, List.length_reverse, List.length_cons] at h3
    omega
  refine ⟨l'.length, hi, ?_, ?_⟩
  · rw [← List.getElem?_take_of_lt hi, h2, List.getElem?_append_right (by simp)]
    simp
  · rw [← Nat.min_eq_left (Nat.le_of_lt hi), ← List.take_take, h2, List.take_left' (by simp), List.reverse_reverse]

end Delb.Nav
