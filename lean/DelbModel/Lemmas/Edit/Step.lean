import DelbModel.Lemmas.Edit.Child
import DelbModel.Lemmas.Edit.MergeClone
import DelbModel.Lemmas.Edit.Path
import DelbModel.Lemmas.Edit.PlainPath
/-!
# Every forest step of the mechanism is the step of the specification on the abstracted state, and fails only
where that one fails
-/
namespace Delb.Edit

theorem absState_get (s : StateC) (g : Nat) :
    (absState s).groups[g]? = (s.groups[g]?).map (Option.map absGroup) := by
  simp [absState]

theorem absState_set (s : StateC) (g : Nat) (x : Option GroupC) :
    absState { s with groups := s.groups.set g x } =
      { absState s with groups := (absState s).groups.set g (x.map absGroup) } := by
  simp [absState, List.map_set]

theorem absState_nextId (s : StateC) : (absState s).nextId = s.nextId := rfl

theorem absState_append (s : StateC) (g : GroupC) (n : Nat) :
    absState { groups := s.groups ++ [some g], nextId := n } =
      { groups := (absState s).groups ++ [some (absGroup g)], nextId := n } := by
  simp [absState]

theorem absGroup_not_tag_of_text (t : TNode) : absGroup (.text t) = .text t.id t.s := rfl

theorem takeSource_sim (s : StateC) (tgt : Nat) (src : Source) :
    ExRel (fun r r' => r' = (absState r.1, absOffered r.2))
      (takeSourceC s tgt src) (takeSourceA (absState s) tgt src) := by
  cases src with
  | newText str => simp [takeSourceC, takeSourceA, absState, absOffered]
  | group g =>
    simp only [takeSourceC, takeSourceA]
    split
    · trivial
    · simp only [absState_get]
      cases hg : s.groups[g]? with
      | none => trivial
      | some o =>
        cases o with
        | none => trivial
        | some grp => cases grp <;> simp [absGroup, absState_set, absOffered]

/-- `modifyGroupA` refuses every group that is no tag node, `modifyGroupC` leaves that to the edit -/
theorem modifyGroupAt_sim (f : El → Except EditErr El) (fP : PTree → Except EditErr PTree)
    (hf : ∀ e, ExRel (fun e' t' => t' = abs e') (f e) (fP (abs e)))
    (hnt : ∀ t t', fP t = .ok t' → t.isTag = true) (s : StateC) (g : Nat) (p : List Nat) :
    ExRel (fun s' a => a = absState s')
      (modifyGroupC s g (fun e => modifyAtE f e p)) (modifyGroupA (absState s) g (fun t => modifyAtP fP t p)) := by
  simp only [modifyGroupC, modifyGroupA, absState_get]
  rcases s.groups[g]? with _ | _ | e | t
  · trivial
  · trivial
  · simp only [Option.map_some, absGroup]
    have h := modifyAt_sim f fP hf hnt p e
    cases e with
    | tag id ns n a data kids =>
      rw [abs_tag] at h ⊢
      dsimp only
      refine h.elim (fun e' _ he => ?_) (fun _ _ => trivial)
      simp only [he, ExRel_ok_ok, absState_set]; rfl
    | comment | pi =>
      split
      · rename_i hfe; cases modifyAtP_isTag hnt (h.ok_eq hfe)
      · trivial
  · trivial

theorem addStep_sim (mk : Offered → ChildOp) (G : PTree → PTree → Except EditErr PTree)
    (hG : ∀ off, G (absOffered off) = applyChildOpP (mk off)) (s : StateC) (g : Nat) (p : List Nat) (src : Source) :
    ExRel (fun s' a => a = absState s')
      (match takeSourceC s g src with
        | .error e => .error e
        | .ok (s', off) => modifyGroupC s' g (fun e => modifyAtE (applyChildOp (mk off)) e p))
      (match takeSourceA (absState s) g src with
        | .error e => .error e
        | .ok (s', new) => modifyGroupA s' g (fun t => modifyAtP (G new) t p)) := by
  refine (takeSource_sim s g src).elim (fun r _ h => ?_) (fun _ _ => trivial)
  subst h
  dsimp only
  rw [hG r.2]
  exact modifyGroupAt_sim _ _ (applyChildOp_sim (mk r.2)) (fun _ _ => applyChildOpP_isTag) r.1 g p

theorem mergeGuard_sim (e : El) :
    ExRel (fun e' t' => t' = abs e')
      (match e with | .tag .. => Except.ok (mergeEl e) | _ => Except.error EditErr.badAddress)
      (if (abs e).isTag then Except.ok (mergeP (abs e)) else Except.error EditErr.badAddress) := by
  cases e with
  | tag id ns n a data kids => simp only [ExRel_ok_ok, abs_mergeEl, abs_tag, PTree.isTag, if_true]
  | comment | pi => simp [PTree.isTag]

theorem detach_map_sim (i : Nat) (e : El) :
    ExRel (fun e' t' => t' = abs e') ((detachChild i e).map (·.1)) ((detachChildP i (abs e)).map (·.1)) := by
  refine (detachChild_sim i e).elim (fun r _ h => ?_) (fun _ _ => trivial)
  subst h; rfl

theorem removeKid_isTag {i : Nat} {t t' : PTree} (h : (removeKid i t).map (·.1) = .ok t') : t.isTag = true := by
  cases t with
  | tag => rfl
  | text | comment | pi => cases h

theorem step_sim (s : StateC) (p : Prim) :
    ExRel (fun s' a => a = absState s') (stepC s p) (stepA (absState s) p) := by
  cases p with
  | addFollowing a src =>
    simp only [stepC, stepA]
    split
    · trivial
    · rename_i p i _
      exact addStep_sim (.addFollowing i) _ (fun _ => rfl) s a.g p src
  | addPreceding a src =>
    simp only [stepC, stepA]
    split
    · trivial
    · rename_i p i _
      exact addStep_sim (.addPreceding i) _ (fun _ => rfl) s a.g p src
  | addFirst a src => exact addStep_sim .addFirst _ (fun _ => rfl) s a.g a.path src
  | setContent a str =>
    simp only [stepC, stepA]
    split
    · simp only [absState_get]
      rcases s.groups[a.g]? with _ | _ | e | t
      · trivial
      · trivial
      · cases e <;> trivial
      · simp only [Option.map_some, absGroup, ExRel_ok_ok, absState_set]
    · rename_i p i _
      exact modifyGroupAt_sim _ _ (applyChildOp_sim (.setContent i str)) (fun _ _ => applyChildOpP_isTag) s a.g p
  | merge a =>
    simp only [stepC, stepA]
    exact modifyGroupAt_sim _ _ mergeGuard_sim (fun t _ h => by split at h; assumption; cases h) s a.g a.path
  | newTag ns name attrs => simp [stepC, stepA, absState, absGroup]
  | newComment str => simp [stepC, stepA, absState, absGroup]
  | newPI t str => simp [stepC, stepA, absState, absGroup]
  | detach a =>
    simp only [stepC, stepA]
    cases hsp : splitLast a.path with
    | none => exact rfl
    | some r =>
      obtain ⟨p, i⟩ := r
      obtain ⟨x, q, hpath⟩ := exists_cons_of_splitLast hsp
      simp only [absState_get]
      rcases s.groups[a.g]? with _ | _ | e | t
      · trivial
      · trivial
      · -- taking child `i` out below `p` is an edit below a path (`hm`); the specification's further test that the
        -- group is a tag node holds whenever that edit succeeded
        simp only [Option.map_some, absGroup, getAt_abs]
        cases getAtE e a.path with
        | none => trivial
        | some off =>
          have hm := modifyAt_sim (fun parent => (detachChild i parent).map (·.1))
            (fun parent => (removeKid i parent).map (·.1)) (detach_map_sim i) (fun _ _ => removeKid_isTag) p e
          cases he : modifyAtE (fun parent => (detachChild i parent).map (·.1)) e p with
          | error err => obtain ⟨_, h⟩ := hm.of_error he; simp only [Option.map_some, h]; trivial
          | ok e' =>
            have hP := hm.ok_eq he
            simp only [Option.map_some, hP, modifyAtP_isTag (fun _ _ => removeKid_isTag) hP, if_true, ExRel_ok_ok]
            cases off <;> simp [absState, absGroup, absOffered, List.map_set]
      · simp only [Option.map_some, absGroup, hpath, getAtP]; trivial
  | cloneDeep a =>
    simp only [stepC, stepA, absState_get]
    rcases s.groups[a.g]? with _ | _ | e | t
    · trivial
    · trivial
    · simp only [Option.map_some, absGroup, getAt_abs]
      cases getAtE e a.path with
      | none => trivial
      | some off =>
        cases off with
        | el x => simp only [Option.map_some, absOffered, absState_nextId, cloneEl_abs, ExRel_ok_ok,
            absState_append, absGroup]
        | text t => simp only [Option.map_some, absOffered, absState_nextId, cloneP, ExRel_ok_ok,
            absState_append, absGroup]
    · simp only [Option.map_some, absGroup]
      cases a.path with
      | nil => simp [getAtP, cloneP, absState_append, absGroup, absState_nextId]
      | cons x q => simp [getAtP]

theorem run_sim (s : StateC) (ops : List Prim) :
    ExRel (fun s' a => a = absState s') (runC s ops) (runA (absState s) ops) := by
  induction ops generalizing s with
  | nil => exact rfl
  | cons p ps ih =>
    simp only [runC, runA]
    refine (step_sim s p).elim (fun s1 _ h => ?_) (fun _ _ => trivial)
    subst h
    exact ih s1

end Delb.Edit
