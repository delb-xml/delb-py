import DelbModel.Lemmas.Edit.Locate
/-!
# Edits below a path commute with `abs`
-/
namespace Delb.Edit
open Delb.Nav

theorem modifyAtP_isTag {fP : PTree → Except EditErr PTree} (hnt : ∀ t t', fP t = .ok t' → t.isTag = true)
    {p : List Nat} {t t' : PTree} (h : modifyAtP fP t p = .ok t') : t.isTag = true := by
  cases p with
  | nil => exact hnt t t' (by simpa [modifyAtP] using h)
  | cons x p =>
    cases t with
    | tag => rfl
    | text | comment | pi => cases h

theorem modifyAt_sim (f : El → Except EditErr El) (fP : PTree → Except EditErr PTree)
    (hf : ∀ e, ExRel (fun e' t' => t' = abs e') (f e) (fP (abs e)))
    (hnt : ∀ t t', fP t = .ok t' → t.isTag = true) :
    ∀ (p : List Nat) (e : El), ExRel (fun e' t' => t' = abs e') (modifyAtE f e p) (modifyAtP fP (abs e) p) := by
  intro p
  induction p with
  | nil => intro e; simpa [modifyAtE, modifyAtP] using hf e
  | cons x p ih =>
    intro e
    cases e with
    | comment | pi => simp [modifyAtE, modifyAtP]
    | tag id ns n a data kids =>
      simp only [modifyAtE, abs_tag, modifyAtP]
      cases hloc : locate data kids x with
      | none => rw [getElem?_of_locate_none hloc]; trivial
      | some loc =>
        have hl := locate_sound _ _ _ _ hloc
        rw [hl.get]
        cases loc with
        | inData j =>
          simp only [locNode]
          cases data[j]? with
          | none => trivial
          | some t =>
            cases h : modifyAtP fP (.text t.id t.s) p with
            | error err => simp only [Option.map_some, h]; trivial
            | ok c' => cases modifyAtP_isTag hnt h
        | inTail k j =>
          simp only [locNode]
          cases (tailOf kids k)[j]? with
          | none => trivial
          | some t =>
            cases h : modifyAtP fP (.text t.id t.s) p with
            | error err => simp only [Option.map_some, h]; trivial
            | ok c' => cases modifyAtP_isTag hnt h
        | elem k =>
          simp only [locNode]
          cases kids[k]? with
          | none => trivial
          | some r =>
            simp only [Option.map_some]
            refine (ih r.1).elim (fun c' _ h => ?_) (fun _ _ => trivial)
            simp only [h, ExRel_ok_ok, abs_tag, hl.elem_set]

theorem getAt_abs : ∀ (p : List Nat) (e : El), getAtP (abs e) p = (getAtE e p).map absOffered := by
  intro p
  induction p with
  | nil => intro e; simp [getAtE, getAtP, absOffered]
  | cons x p ih =>
    intro e
    cases e with
    | comment | pi => simp [getAtE, getAtP]
    | tag id ns n a data kids =>
      simp only [getAtE, abs_tag, getAtP]
      cases hloc : locate data kids x with
      | none => rw [getElem?_of_locate_none hloc]; rfl
      | some loc =>
        rw [(locate_sound _ _ _ _ hloc).get]
        cases loc with
        | inData j => simp only [locNode]; cases data[j]? <;> cases p <;> simp [getAtP, absOffered]
        | inTail k j => simp only [locNode]; cases (tailOf kids k)[j]? <;> cases p <;> simp [getAtP, absOffered]
        | elem k => simp only [locNode]; cases kids[k]? <;> simp [ih]

end Delb.Edit
