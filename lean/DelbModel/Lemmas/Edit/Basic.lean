import DelbModel.Model.Edit
/-!
# The abstraction map on constructors and on a split child list; corresponding outcomes (`ExRel`)
-/
namespace Delb.Edit

theorem take_append_drop_assoc {α} (n : Nat) (l X : List α) : l.take n ++ (l.drop n ++ X) = l ++ X := by
  rw [← List.append_assoc, List.take_append_drop]

@[simp] theorem absChain_nil : absChain [] = [] := rfl
@[simp] theorem absChain_cons (t : TNode) (c : Chain) :
    absChain (t :: c) = PTree.text t.id t.s :: absChain c := rfl
@[simp] theorem absChain_append (a b : Chain) : absChain (a ++ b) = absChain a ++ absChain b := by
  simp [absChain]
@[simp] theorem absChain_length (c : Chain) : (absChain c).length = c.length := by simp [absChain]

@[simp] theorem absKids_nil : absKids [] = [] := by simp [absKids]
@[simp] theorem absKids_cons (e : El) (tl : Chain) (rest : List (El × Chain)) :
    absKids ((e, tl) :: rest) = abs e :: (absChain tl ++ absKids rest) := by simp [absKids]
@[simp] theorem absKids_append (a b : List (El × Chain)) : absKids (a ++ b) = absKids a ++ absKids b := by
  induction a with
  | nil => simp
  | cons x a ih => obtain ⟨e, tl⟩ := x; simp [ih]

@[simp] theorem abs_tag (i ns n a data kids) :
    abs (.tag i ns n a data kids) = .tag i ns n a (absChain data ++ absKids kids) := by simp [abs]
@[simp] theorem abs_comment (i s) : abs (.comment i s) = .comment i s := by simp [abs]
@[simp] theorem abs_pi (i t s) : abs (.pi i t s) = .pi i t s := by simp [abs]

theorem abs_not_text (e : El) : (abs e).isText = false := by
  cases e <;> simp [PTree.isText]

theorem abs_ne_text (e : El) (i : Nat) (s : Str) : abs e ≠ .text i s := by
  cases e <;> simp

theorem absKids_length (kids : List (El × Chain)) :
    (absKids kids).length = (kids.map (fun p => 1 + p.2.length)).sum := by
  induction kids with
  | nil => simp
  | cons x kids ih => obtain ⟨e, tl⟩ := x; simp [ih]; omega

theorem visLen_eq (data : Chain) (kids : List (El × Chain)) :
    visLen data kids = (absChain data ++ absKids kids).length := by
  simp [visLen, absKids_length]

theorem setTail_mid (pre : List (El × Chain)) (e : El) (tl : Chain) (post : List (El × Chain)) (tl' : Chain) :
    setTail (pre ++ (e, tl) :: post) pre.length tl' = pre ++ (e, tl') :: post := by
  simp [setTail]

theorem tailOf_mid (pre : List (El × Chain)) (e : El) (tl : Chain) (post : List (El × Chain)) :
    tailOf (pre ++ (e, tl) :: post) pre.length = tl := by
  simp [tailOf]

theorem setEl_mid (pre : List (El × Chain)) (e : El) (tl : Chain) (post : List (El × Chain)) (e' : El) :
    setEl (pre ++ (e, tl) :: post) pre.length e' = pre ++ (e', tl) :: post := by
  simp [setEl]

theorem insertElAfter_mid (pre : List (El × Chain)) (e : El) (tl : Chain) (post : List (El × Chain))
    (e2 : El) (tl2 : Chain) :
    insertElAfter (pre ++ (e, tl) :: post) pre.length e2 tl2 = pre ++ (e, tl) :: (e2, tl2) :: post := by
  have h1 : List.take (pre.length + 1) pre = pre := List.take_of_length_le (by omega)
  have h2 : List.drop (pre.length + 1) pre = [] := List.drop_of_length_le (by omega)
  simp [insertElAfter, List.take_append, List.drop_append, h1, h2]

section
variable {ε₁ ε₂ : Type}

/-- two outcomes correspond: both succeed with related results, or both fail -/
def ExRel {α₁ α₂ : Type} (R : α₁ → α₂ → Prop) : Except ε₁ α₁ → Except ε₂ α₂ → Prop
  | .ok a, .ok b => R a b
  | .error _, .error _ => True
  | _, _ => False

@[simp] theorem ExRel_ok_ok {α₁ α₂ : Type} (R : α₁ → α₂ → Prop) (a : α₁) (b : α₂) :
    ExRel (ε₁ := ε₁) (ε₂ := ε₂) R (.ok a) (.ok b) = R a b := rfl
@[simp] theorem ExRel_err_err {α₁ α₂ : Type} (R : α₁ → α₂ → Prop) (e : ε₁) (e' : ε₂) :
    ExRel R (.error e : Except ε₁ α₁) (.error e' : Except ε₂ α₂) = True := rfl
@[simp] theorem ExRel_ok_err {α₁ α₂ : Type} (R : α₁ → α₂ → Prop) (a : α₁) (e' : ε₂) :
    ExRel R (.ok a : Except ε₁ α₁) (.error e' : Except ε₂ α₂) = False := rfl
@[simp] theorem ExRel_err_ok {α₁ α₂ : Type} (R : α₁ → α₂ → Prop) (e : ε₁) (b : α₂) :
    ExRel R (.error e : Except ε₁ α₁) (.ok b : Except ε₂ α₂) = False := rfl

variable {α₁ α₂ : Type} {R : α₁ → α₂ → Prop} {x : Except ε₁ α₁} {y : Except ε₂ α₂}

theorem ExRel.of_ok (h : ExRel R x y) {a : α₁} (hx : x = .ok a) : ∃ b, y = .ok b ∧ R a b := by
  subst hx
  cases y with
  | ok b => exact ⟨b, rfl, h⟩
  | error e => exact h.elim

theorem ExRel.of_error (h : ExRel R x y) {e : ε₁} (hx : x = .error e) : ∃ e', y = .error e' := by
  subst hx
  cases y with
  | ok b => exact h.elim
  | error e' => exact ⟨e', rfl⟩

@[elab_as_elim]
theorem ExRel.elim {motive : Except ε₁ α₁ → Except ε₂ α₂ → Prop} (h : ExRel R x y)
    (ok : ∀ a b, R a b → motive (.ok a) (.ok b)) (error : ∀ e e', motive (.error e) (.error e')) : motive x y := by
  cases x <;> cases y
  · exact error _ _
  · exact False.elim h
  · exact False.elim h
  · exact ok _ _ h

theorem ExRel.error_left {e : ε₁} (h : ∀ b, y ≠ .ok b) : ExRel R (.error e : Except ε₁ α₁) y := by
  cases y with
  | ok b => exact (h b rfl).elim
  | error e' => trivial

theorem ExRel.ok_eq {F : α₁ → α₂} (h : ExRel (fun c a => a = F c) x y) {a : α₁} (hx : x = .ok a) :
    y = .ok (F a) := by
  obtain ⟨_, hy, rfl⟩ := h.of_ok hx
  exact hy

end

/-- The `match` is the one the composites of `Model/EditApi.lean` are written with; it unifies with theirs because
    the type variables come in the same order (state before error) here and there -/
theorem ExRel.bind {σ₁ σ₂ ε₁ ε₂ β₁ β₂ : Type} {Q : σ₁ → σ₂ → Prop} {R : β₁ → β₂ → Prop}
    {x : Except ε₁ σ₁} {y : Except ε₂ σ₂} {f : σ₁ → Except ε₁ β₁} {g : σ₂ → Except ε₂ β₂}
    (h : ExRel Q x y) (hfg : ∀ a b, Q a b → ExRel R (f a) (g b)) :
    ExRel R (match x with | .error e => .error e | .ok a => f a)
      (match y with | .error e => .error e | .ok b => g b) :=
  h.elim hfg fun _ _ => trivial

theorem ExRel.ite {σ₁ σ₂ ε₁ ε₂ : Type} {c : Prop} [Decidable c] {R : σ₁ → σ₂ → Prop} {x x' : Except ε₁ σ₁}
    {y y' : Except ε₂ σ₂} (h : c → ExRel R x y) (h' : ¬c → ExRel R x' y') :
    ExRel R (if c then x else x') (if c then y else y') := by
  by_cases hc : c
  · rw [if_pos hc, if_pos hc]; exact h hc
  · rw [if_neg hc, if_neg hc]; exact h' hc

end Delb.Edit
