import DelbModel.Lemmas.Edit.Locate
/-!
# The edits on the child list of one node are list splices
-/
namespace Delb.Edit
open Delb.Nav

theorem absChain_take_drop' (n : Nat) (c : Chain) :
    absChain (c.take n) ++ absChain (c.drop n) = absChain c := by
  rw [← absChain_append, List.take_append_drop]

theorem absChain_take_drop (n : Nat) (c : Chain) (X : List PTree) :
    absChain (c.take n) ++ (absChain (c.drop n) ++ X) = absChain c ++ X := by
  rw [← List.append_assoc, absChain_take_drop']

theorem addFollowing_abs (data : Chain) (kids : List (El × Chain)) (i : Nat) (loc : Loc) (new : Offered)
    (h : LocAt data kids i loc) :
    absChain (addFollowing data kids loc new).1 ++ absKids (addFollowing data kids loc new).2 =
      (absChain data ++ absKids kids).take (i + 1) ++
        absOffered new :: (absChain data ++ absKids kids).drop (i + 1) := by
  -- a text node offered extends the chain at `loc`, an element offered cuts it in two; either way the new child
  -- lands between `A` (the children up to `loc`) and `B`
  cases loc with
  | inData j =>
    obtain ⟨rfl, hj⟩ := h
    exact eq_insert (A := absChain (data.take (i + 1))) (B := absChain (data.drop (i + 1)) ++ absKids kids)
      (by simp [absChain_take_drop]) (by cases new <;> simp [addFollowing, absOffered]) (by simp; omega)
  | elem k =>
    obtain ⟨pre, e, tl, post, rfl, rfl, rfl⟩ := h
    exact eq_insert (A := absChain data ++ absKids pre ++ [abs e]) (B := absChain tl ++ absKids post)
      (by simp) (by cases new <;> simp [addFollowing, setTail_mid, tailOf_mid, insertElAfter_mid, absOffered])
      (by simp; omega)
  | inTail k j =>
    obtain ⟨pre, e, tl, post, rfl, rfl, hj, rfl⟩ := h
    exact eq_insert (A := absChain data ++ absKids pre ++ abs e :: absChain (tl.take (j + 1)))
      (B := absChain (tl.drop (j + 1)) ++ absKids post) (by simp [absChain_take_drop])
      (by cases new <;> simp [addFollowing, setTail_mid, tailOf_mid, insertElAfter_mid, absOffered])
      (by simp; omega)

/-- `_add_preceding_sibling` delegates to `_add_following_sibling` of the preceding sibling, except for a text node
    prepended to a text node, which lands in the same place of the chain -/
theorem addPreceding_eq_addFollowing (data : Chain) (kids : List (El × Chain)) (loc l' : Loc) (new : Offered)
    (hp : prevLoc data kids loc = some l') : addPreceding data kids loc new = addFollowing data kids l' new := by
  cases loc with
  | inData j =>
    cases j with
    | zero => cases hp
    | succ j => cases hp; cases new <;> rfl
  | inTail k j =>
    cases j with
    | zero => cases hp; cases new <;> rfl
    | succ j => cases hp; cases new <;> rfl
  | elem k =>
    cases k with
    | zero =>
      cases data with
      | nil => cases hp
      | cons d ds => cases hp; rfl
    | succ k =>
      cases ht : (tailOf kids k).length with
      | zero => simp [prevLoc, ht] at hp; subst hp; simp [addPreceding, ht]
      | succ n => simp [prevLoc, ht] at hp; subst hp; simp [addPreceding, ht]

theorem addPreceding_first (data : Chain) (kids : List (El × Chain)) (loc : Loc) (new : Offered)
    (hp : prevLoc data kids loc = none) :
    absChain (addPreceding data kids loc new).1 ++ absKids (addPreceding data kids loc new).2 =
      absOffered new :: (absChain data ++ absKids kids) := by
  cases loc with
  | inData j =>
    cases j with
    | zero => cases new <;> simp [addPreceding, absOffered]
    | succ j => cases hp
  | inTail k j => cases j <;> cases hp
  | elem k =>
    cases k with
    | zero =>
      cases data with
      | nil => cases new <;> simp [addPreceding, absOffered]
      | cons d ds => cases hp
    | succ k => simp only [prevLoc] at hp; split at hp <;> cases hp

theorem addPreceding_abs (data : Chain) (kids : List (El × Chain)) (i : Nat) (loc : Loc) (new : Offered)
    (h : LocAt data kids i loc) :
    absChain (addPreceding data kids loc new).1 ++ absKids (addPreceding data kids loc new).2 =
      (absChain data ++ absKids kids).take i ++
        absOffered new :: (absChain data ++ absKids kids).drop i := by
  cases hp : prevLoc data kids loc with
  | none => rw [h.prev_none hp, addPreceding_first data kids loc new hp]; rfl
  | some l' =>
    obtain ⟨i', rfl, hi'⟩ := h.prev_some hp
    rw [addPreceding_eq_addFollowing data kids loc l' new hp]
    exact addFollowing_abs data kids i' l' new hi'

theorem detachAt_abs (data : Chain) (kids : List (El × Chain)) (i : Nat) (loc : Loc)
    (h : LocAt data kids i loc) :
    ∃ d k off, detachAt data kids loc = some (d, k, off) ∧
      absChain d ++ absKids k = (absChain data ++ absKids kids).eraseIdx i ∧
      (absChain data ++ absKids kids)[i]? = some (absOffered off) := by
  cases loc with
  | inData j =>
    obtain ⟨rfl, hj⟩ := h
    obtain ⟨A, t, B, rfl, rfl⟩ := lt_length_split hj
    refine ⟨A ++ B, kids, .text t, by simp [detachAt, eraseIdx_mid], ?_⟩
    exact eq_erase (A := absChain A) (B := absChain B ++ absKids kids) (by simp [absOffered]) (by simp) (by simp)
  | inTail k' j =>
    obtain ⟨pre, e, tl, post, rfl, rfl, hj, rfl⟩ := h
    obtain ⟨A, t, B, rfl, rfl⟩ := lt_length_split hj
    refine ⟨data, pre ++ (e, A ++ B) :: post, .text t, by simp [detachAt, tailOf_mid, setTail_mid, eraseIdx_mid], ?_⟩
    exact eq_erase (A := absChain data ++ absKids pre ++ abs e :: absChain A) (B := absChain B ++ absKids post)
      (by simp [absOffered]) (by simp) (by simp; omega)
  | elem k' =>
    obtain ⟨e, tl, post, rfl, rfl, rfl⟩ | ⟨pre, e0, tl0, e, tl, post, rfl, rfl, rfl⟩ := h.elem_cases
    · refine ⟨data ++ tl, post, .el e, by simp [detachAt], ?_⟩
      exact eq_erase (A := absChain data) (B := absChain tl ++ absKids post) (by simp [absOffered]) (by simp) (by simp)
    · refine ⟨data, pre ++ (e0, tl0 ++ tl) :: post, .el e,
        by simp [detachAt, tailOf_mid, setTail_mid, eraseIdx_mid_succ], ?_⟩
      exact eq_erase (A := absChain data ++ absKids pre ++ abs e0 :: absChain tl0) (B := absChain tl ++ absKids post)
        (by simp [absOffered]) (by simp) (by simp; omega)

theorem setContentAt_abs (data : Chain) (kids : List (El × Chain)) (i : Nat) (loc : Loc)
    (h : LocAt data kids i loc) (s : Str) :
    match setContentAt data kids loc s with
    | some (d, k) => ∃ id s0, absChain d ++ absKids k = (absChain data ++ absKids kids).set i (.text id s) ∧
        (absChain data ++ absKids kids)[i]? = some (.text id s0)
    | none => ∃ e, (absChain data ++ absKids kids)[i]? = some (abs e) := by
  cases loc with
  | inData j =>
    obtain ⟨rfl, hj⟩ := h
    obtain ⟨A, t, B, rfl, rfl⟩ := lt_length_split hj
    simp only [setContentAt, getElem?_mid]
    exact ⟨t.id, t.s, eq_set (A := absChain A) (B := absChain B ++ absKids kids) (by simp) (by simp) (by simp)⟩
  | inTail k' j =>
    obtain ⟨pre, e, tl, post, rfl, rfl, hj, rfl⟩ := h
    obtain ⟨A, t, B, rfl, rfl⟩ := lt_length_split hj
    simp only [setContentAt, tailOf_mid, getElem?_mid, setTail_mid]
    exact ⟨t.id, t.s, eq_set (A := absChain data ++ absKids pre ++ abs e :: absChain A)
      (B := absChain B ++ absKids post) (by simp) (by simp) (by simp; omega)⟩
  | elem k' =>
    obtain ⟨pre, e, tl, post, rfl, rfl, rfl⟩ := h
    exact ⟨e, getElem?_of_split (A := absChain data ++ absKids pre) (B := absChain tl ++ absKids post)
      (by simp) (by simp)⟩

theorem applyChildOpP_isTag {op : ChildOp} {t t' : PTree} (h : applyChildOpP op t = .ok t') : t.isTag = true := by
  cases t with
  | tag => rfl
  | text | comment | pi => cases op <;> simp [applyChildOpP, PTree.kids, PTree.isTag] at h

theorem applyChildOp_sim (op : ChildOp) (e : El) :
    ExRel (fun e' t' => t' = abs e') (applyChildOp op e) (applyChildOpP op (abs e)) := by
  cases e with
  | comment | pi => exact .error_left fun _ h => by cases applyChildOpP_isTag h
  | tag id ns n a data kids =>
    cases op with
    | addFollowing i new =>
      simp only [applyChildOp, applyChildOpP, abs_tag, PTree.kids]
      cases hloc : locate data kids i with
      | none => rw [if_neg (Nat.not_lt.2 (locate_none _ _ _ hloc))]; trivial
      | some loc =>
        have hl := locate_sound _ _ _ _ hloc
        have hlt := hl.lt
        simp only [if_pos hlt, insertKid, if_pos (Nat.succ_le_of_lt hlt), ExRel_ok_ok, abs_tag,
          addFollowing_abs data kids i loc new hl]
    | addPreceding i new =>
      simp only [applyChildOp, applyChildOpP, abs_tag, PTree.kids]
      cases hloc : locate data kids i with
      | none => rw [if_neg (Nat.not_lt.2 (locate_none _ _ _ hloc))]; trivial
      | some loc =>
        have hl := locate_sound _ _ _ _ hloc
        have hlt := hl.lt
        simp only [if_pos hlt, insertKid, if_pos (Nat.le_of_lt hlt), ExRel_ok_ok, abs_tag,
          addPreceding_abs data kids i loc new hl]
    | addFirst new =>
      simp only [applyChildOp, applyChildOpP, abs_tag, PTree.kids, PTree.isTag, Bool.true_and, visLen_eq]
      cases data with
      | cons d ds => simp
      | nil =>
        cases kids with
        | cons x xs => obtain ⟨x1, x2⟩ := x; simp
        | nil => cases new <;> simp [insertKid, absOffered]
    | setContent i s =>
      simp only [applyChildOp, applyChildOpP, abs_tag, PTree.kids]
      cases hloc : locate data kids i with
      | none => rw [getElem?_of_locate_none hloc]; trivial
      | some loc =>
        have h := setContentAt_abs data kids i loc (locate_sound _ _ _ _ hloc) s
        dsimp only
        cases hsc : setContentAt data kids loc s with
        | none =>
          rw [hsc] at h
          obtain ⟨e2, he2⟩ := h
          rw [he2]
          cases e2 <;> simp
        | some r =>
          rw [hsc] at h
          obtain ⟨id', s0, h1, h2⟩ := h
          simp only [h2, ExRel_ok_ok, abs_tag, h1]

theorem detachChild_sim (i : Nat) (e : El) :
    ExRel (fun r r' => r' = (abs r.1, absOffered r.2)) (detachChild i e) (detachChildP i (abs e)) := by
  cases e with
  | comment | pi => trivial
  | tag id ns n a data kids =>
    simp only [detachChild, detachChildP, removeKid, abs_tag]
    cases hloc : locate data kids i with
    | none => rw [getElem?_of_locate_none hloc]; trivial
    | some loc =>
      obtain ⟨d, k, off, hd, h1, h2⟩ := detachAt_abs data kids i loc (locate_sound _ _ _ _ hloc)
      simp only [hd, h2, ExRel_ok_ok, abs_tag, h1]

end Delb.Edit
