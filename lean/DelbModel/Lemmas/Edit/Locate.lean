import DelbModel.Model.Nav
import DelbModel.Lemmas.General
import DelbModel.Lemmas.Edit.Basic
/-!
# Where an index of the visible child list sits in the slot/chain encoding (C01, C05)

`LocAt data kids i l` says it with the child elements split around the one concerned; `locIndex` / `locValid` of
`Model/Nav.lean` say the same by counting.
-/
namespace Delb.Edit
open Delb.Nav

/-- what `locate` returning `loc` for index `i` means -/
def LocAt (data : Chain) (kids : List (El × Chain)) (i : Nat) : Loc → Prop
  | .inData j => i = j ∧ j < data.length
  | .elem k => ∃ pre e tl post, kids = pre ++ (e, tl) :: post ∧ pre.length = k ∧
      i = data.length + (absKids pre).length
  | .inTail k j => ∃ pre e tl post, kids = pre ++ (e, tl) :: post ∧ pre.length = k ∧ j < tl.length ∧
      i = data.length + (absKids pre).length + 1 + j

theorem locate_go_spec (data : Chain) (pre rest : List (El × Chain)) (m : Nat) :
    match locate.go pre.length m rest with
    | some loc => LocAt data (pre ++ rest) (data.length + (absKids pre).length + m) loc
    | none => (absKids rest).length ≤ m := by
  induction rest generalizing pre m with
  | nil => exact Nat.zero_le m
  | cons x rest ih =>
    obtain ⟨e, tl⟩ := x
    rw [locate.go]
    cases m with
    | zero => exact ⟨pre, e, tl, rest, rfl, rfl, rfl⟩
    | succ m =>
      rw [if_neg (Nat.succ_ne_zero m), Nat.add_sub_cancel]
      by_cases h1 : m < tl.length
      · rw [if_pos h1]; exact ⟨pre, e, tl, rest, rfl, rfl, h1, by omega⟩
      · have := ih (pre ++ [(e, tl)]) (m - tl.length)
        rw [List.length_append, List.length_singleton, List.append_assoc, List.singleton_append,
          show data.length + (absKids (pre ++ [(e, tl)])).length + (m - tl.length) =
            data.length + (absKids pre).length + (m + 1) by simp; omega] at this
        rw [if_neg h1]
        cases hgo : locate.go (pre.length + 1) (m - tl.length) rest with
        | some loc => rw [hgo] at this; exact this
        | none => rw [hgo] at this; simp; omega

theorem locate_sound (data : Chain) (kids : List (El × Chain)) (i : Nat) (loc : Loc)
    (h : locate data kids i = some loc) : LocAt data kids i loc := by
  unfold locate at h
  by_cases hi : i < data.length
  · rw [if_pos hi] at h; cases h; exact ⟨rfl, hi⟩
  · have := locate_go_spec data [] kids (i - data.length)
    rw [if_neg hi] at h
    rw [List.length_nil, h] at this
    simpa [show data.length + (i - data.length) = i by omega] using this

theorem locate_none (data : Chain) (kids : List (El × Chain)) (i : Nat)
    (h : locate data kids i = none) : (absChain data ++ absKids kids).length ≤ i := by
  unfold locate at h
  by_cases hi : i < data.length
  · rw [if_pos hi] at h; cases h
  · have := locate_go_spec data [] kids (i - data.length)
    rw [if_neg hi] at h
    rw [List.length_nil, h] at this
    simp only [List.length_append, absChain_length]; omega

theorem getElem?_of_locate_none {data : Chain} {kids : List (El × Chain)} {i : Nat}
    (h : locate data kids i = none) : (absChain data ++ absKids kids)[i]? = none :=
  List.getElem?_eq_none (locate_none _ _ _ h)

theorem locate_go_append (k m : Nat) (pre rest : List (El × Chain)) :
    locate.go k ((absKids pre).length + m) (pre ++ rest) = locate.go (k + pre.length) m rest := by
  induction pre generalizing k with
  | nil => simp
  | cons x pre ih =>
    obtain ⟨e, tl⟩ := x
    have hlen : (absKids ((e, tl) :: pre)).length + m = (absKids pre).length + m + tl.length + 1 := by
      simp only [absKids_cons, List.length_cons, List.length_append, absChain_length]; omega
    rw [hlen, List.cons_append, locate.go, if_neg (by omega), if_neg (by omega),
      show (absKids pre).length + m + tl.length + 1 - 1 - tl.length = (absKids pre).length + m by omega, ih,
      List.length_cons, Nat.add_right_comm k 1, Nat.add_assoc]

theorem LocAt.locate {data : Chain} {kids : List (El × Chain)} {i : Nat} {l : Loc}
    (h : LocAt data kids i l) : locate data kids i = some l := by
  cases l with
  | inData j => obtain ⟨rfl, hj⟩ := h; simp [Edit.locate, hj]
  | elem k =>
    obtain ⟨pre, e, tl, post, rfl, rfl, rfl⟩ := h
    rw [Edit.locate, if_neg (by omega), Nat.add_sub_cancel_left]
    exact (locate_go_append 0 0 pre _).trans (by simp [locate.go])
  | inTail k j =>
    obtain ⟨pre, e, tl, post, rfl, rfl, hj, rfl⟩ := h
    rw [Edit.locate, if_neg (by omega),
      show data.length + (absKids pre).length + 1 + j - data.length = (absKids pre).length + (1 + j) by omega]
    refine (locate_go_append 0 (1 + j) pre _).trans ?_
    rw [locate.go, if_neg (by omega), if_pos (by omega), Nat.zero_add, Nat.add_sub_cancel_left]

theorem LocAt.unique {data : Chain} {kids : List (El × Chain)} {i : Nat} {l l' : Loc}
    (h : LocAt data kids i l) (h' : LocAt data kids i l') : l = l' :=
  Option.some.inj (h.locate.symm.trans h'.locate)

theorem LocAt.lt {data : Chain} {kids : List (El × Chain)} {i : Nat} {loc : Loc}
    (h : LocAt data kids i loc) : i < (absChain data ++ absKids kids).length := by
  cases loc with
  | inData j => obtain ⟨rfl, h2⟩ := h; simp; omega
  | elem k =>
    obtain ⟨pre, e, tl, post, rfl, _, rfl⟩ := h
    simp only [List.length_append, absChain_length, absKids_append, absKids_cons, List.length_cons]; omega
  | inTail k j =>
    obtain ⟨pre, e, tl, post, rfl, _, _, rfl⟩ := h
    simp only [List.length_append, absChain_length, absKids_append, absKids_cons, List.length_cons]; omega

theorem LocAt.index_valid {data : Chain} {kids : List (El × Chain)} {i : Nat} {l : Loc}
    (h : LocAt data kids i l) : locIndex data kids l = i ∧ locValid data kids l = true := by
  cases l with
  | inData j => obtain ⟨rfl, hj⟩ := h; exact ⟨rfl, by simpa [locValid] using hj⟩
  | elem k =>
    obtain ⟨pre, e, tl, post, rfl, rfl, rfl⟩ := h
    simp [locIndex, locValid, absKids_length]
  | inTail k j =>
    obtain ⟨pre, e, tl, post, rfl, rfl, hj, rfl⟩ := h
    simp [locIndex, locValid, absKids_length, tailOf_mid, hj]

theorem LocAt.of_valid {data : Chain} {kids : List (El × Chain)} {l : Loc}
    (hv : locValid data kids l = true) : LocAt data kids (locIndex data kids l) l := by
  cases l with
  | inData j => exact ⟨rfl, by simpa [locValid] using hv⟩
  | elem k =>
    obtain ⟨pre, ⟨e, tl⟩, post, rfl, rfl⟩ := lt_length_split (by simpa [locValid] using hv : k < kids.length)
    exact ⟨pre, e, tl, post, rfl, rfl, by simp [locIndex, absKids_length]⟩
  | inTail k j =>
    simp only [locValid, Bool.and_eq_true, decide_eq_true_eq] at hv
    obtain ⟨pre, ⟨e, tl⟩, post, rfl, rfl⟩ := lt_length_split hv.1
    exact ⟨pre, e, tl, post, rfl, rfl, by simpa [tailOf_mid] using hv.2, by simp [locIndex, absKids_length]⟩

theorem LocAt.get {data : Chain} {kids : List (El × Chain)} {i : Nat} {l : Loc}
    (h : LocAt data kids i l) : (absChain data ++ absKids kids)[i]? = locNode data kids l := by
  cases l with
  | inData j =>
    obtain ⟨rfl, hj⟩ := h
    simp [locNode, List.getElem?_append_left, hj, absChain]
  | elem k =>
    obtain ⟨pre, e, tl, post, rfl, rfl, rfl⟩ := h
    simp [locNode]
  | inTail k j =>
    obtain ⟨pre, e, tl, post, rfl, rfl, hj, rfl⟩ := h
    obtain ⟨A, t, B, rfl, rfl⟩ := lt_length_split hj
    rw [locNode, tailOf_mid, getElem?_mid]
    exact getElem?_of_split (A := absChain data ++ absKids pre ++ abs e :: absChain A)
      (B := absChain B ++ absKids post) (by simp) (by simp; omega)

theorem LocAt.elem_set {data : Chain} {kids : List (El × Chain)} {i k : Nat}
    (h : LocAt data kids i (.elem k)) (c' : El) :
    absChain data ++ absKids (setEl kids k c') = (absChain data ++ absKids kids).set i (abs c') := by
  obtain ⟨pre, e, tl, post, rfl, rfl, rfl⟩ := h
  rw [setEl_mid]
  exact (eq_set (A := absChain data ++ absKids pre) (B := absChain tl ++ absKids post) (x := abs e)
    (by simp) (by simp) (by simp)).1

theorem LocAt.elem_cases {data : Chain} {kids : List (El × Chain)} {i k : Nat} (h : LocAt data kids i (.elem k)) :
    (∃ e tl post, kids = (e, tl) :: post ∧ k = 0 ∧ i = data.length) ∨
    (∃ pre e0 tl0 e tl post, kids = pre ++ (e0, tl0) :: (e, tl) :: post ∧ k = pre.length + 1 ∧
      i = data.length + (absKids pre).length + 1 + tl0.length) := by
  obtain ⟨pre, e, tl, post, rfl, rfl, rfl⟩ := h
  rcases List.eq_nil_or_concat pre with rfl | ⟨pre, ⟨e0, tl0⟩, rfl⟩
  · exact .inl ⟨e, tl, post, rfl, rfl, rfl⟩
  · exact .inr ⟨pre, e0, tl0, e, tl, post, by simp, by simp, by simp; omega⟩

theorem LocAt.next {data : Chain} {kids : List (El × Chain)} {i : Nat} {l : Loc} (h : LocAt data kids i l) :
    match nextLoc data kids l with
    | some l' => LocAt data kids (i + 1) l'
    | none => i + 1 = (absChain data ++ absKids kids).length := by
  cases l with
  | inData j =>
    obtain ⟨rfl, hj⟩ := h
    by_cases h1 : i + 1 < data.length
    · simp only [nextLoc, h1, if_true]; exact ⟨rfl, h1⟩
    · cases kids with
      | nil => simp [nextLoc, h1]; omega
      | cons x rest =>
        obtain ⟨e, tl⟩ := x
        simp only [nextLoc, h1, if_false, List.length_cons, Nat.zero_lt_succ, if_true, gt_iff_lt]
        exact ⟨[], e, tl, rest, rfl, rfl, by simp; omega⟩
  | elem k =>
    obtain ⟨pre, e, tl, post, rfl, rfl, rfl⟩ := h
    simp only [nextLoc, tailOf_mid]
    cases tl with
    | cons t ts => simp; exact ⟨pre, e, _, post, rfl, rfl, by simp, rfl⟩
    | nil =>
      cases post with
      | nil => simp; omega
      | cons x post =>
        obtain ⟨e2, tl2⟩ := x
        simp
        exact ⟨pre ++ [(e, [])], e2, tl2, post, by simp, by simp, by simp; omega⟩
  | inTail k j =>
    obtain ⟨pre, e, tl, post, rfl, rfl, hj, rfl⟩ := h
    simp only [nextLoc, tailOf_mid]
    by_cases h1 : j + 1 < tl.length
    · simp only [h1, if_true]; exact ⟨pre, e, tl, post, rfl, rfl, h1, rfl⟩
    · cases post with
      | nil => simp [h1]; omega
      | cons x post =>
        obtain ⟨e2, tl2⟩ := x
        simp [h1]
        exact ⟨pre ++ [(e, tl)], e2, tl2, post, by simp, by simp, by simp; omega⟩

theorem LocAt.next_some {data : Chain} {kids : List (El × Chain)} {i : Nat} {l l' : Loc}
    (h : LocAt data kids i l) (hn : nextLoc data kids l = some l') : LocAt data kids (i + 1) l' := by
  have := h.next
  rwa [hn] at this

theorem LocAt.next_none {data : Chain} {kids : List (El × Chain)} {i : Nat} {l : Loc}
    (h : LocAt data kids i l) (hn : nextLoc data kids l = none) :
    i + 1 = (absChain data ++ absKids kids).length := by
  have := h.next
  rwa [hn] at this

theorem LocAt.prev {data : Chain} {kids : List (El × Chain)} {i : Nat} {l : Loc} (h : LocAt data kids i l) :
    match prevLoc data kids l with
    | some l' => ∃ i', i = i' + 1 ∧ LocAt data kids i' l'
    | none => i = 0 := by
  cases l with
  | inData j =>
    obtain ⟨rfl, hj⟩ := h
    cases i with
    | zero => rfl
    | succ j => exact ⟨j, rfl, rfl, by omega⟩
  | inTail k j =>
    obtain ⟨pre, e, tl, post, rfl, rfl, hj, rfl⟩ := h
    cases j with
    | zero => exact ⟨_, rfl, pre, e, tl, post, rfl, rfl, rfl⟩
    | succ j => exact ⟨_, rfl, pre, e, tl, post, rfl, rfl, by omega, rfl⟩
  | elem k =>
    obtain ⟨e, tl, post, rfl, rfl, rfl⟩ | ⟨pre, e0, tl0, e, tl, post, rfl, rfl, rfl⟩ := h.elem_cases
    · cases data with
      | nil => rfl
      | cons d ds => simp [prevLoc]; exact ⟨rfl, by simp⟩
    · simp only [prevLoc, tailOf_mid]
      cases tl0 with
      | nil => exact ⟨_, rfl, pre, e0, [], _, rfl, rfl, rfl⟩
      | cons t ts =>
        simp only [List.length_cons, Nat.zero_lt_succ, if_true, gt_iff_lt, Nat.add_sub_cancel]
        exact ⟨_, rfl, pre, e0, t :: ts, _, rfl, rfl, by simp, by simp⟩

theorem LocAt.prev_some {data : Chain} {kids : List (El × Chain)} {i : Nat} {l l' : Loc}
    (h : LocAt data kids i l) (hp : prevLoc data kids l = some l') : ∃ i', i = i' + 1 ∧ LocAt data kids i' l' := by
  have := h.prev
  rwa [hp] at this

theorem LocAt.prev_none {data : Chain} {kids : List (El × Chain)} {i : Nat} {l : Loc}
    (h : LocAt data kids i l) (hp : prevLoc data kids l = none) : i = 0 := by
  have := h.prev
  rwa [hp] at this

end Delb.Edit
