import DelbModel.Lemmas.Edit.PlainPath
/-!
# What a successful step of the specification did

Inversion of `modifyGroupA`, `takeSourceA` and of the `detach` case of `stepA`: from `… = .ok s'` to the groups that
were read and the state that results.
-/
namespace Delb.Edit

theorem modifyGroupA_inv {s s' : StateA} {g : Nat} {f : PTree → Except EditErr PTree}
    (h : modifyGroupA s g f = .ok s') :
    ∃ t t', s.groups[g]? = some (some t) ∧ f t = .ok t' ∧ s' = { s with groups := s.groups.set g (some t') } := by
  simp only [modifyGroupA] at h
  split at h
  · rename_i i ns n a ks hg
    split at h
    · rename_i t' ht'
      exact ⟨_, t', hg, ht', (Except.ok.inj h).symm⟩
    · cases h
  · cases h

theorem takeSourceA_inv {s s1 : StateA} {tgt : Nat} {src : Source} {new : PTree}
    (h : takeSourceA s tgt src = .ok (s1, new)) :
    (∃ str, src = .newText str ∧ s1 = { s with nextId := s.nextId + 1 }) ∨
    (∃ g, src = .group g ∧ s.groups[g]? = some (some new) ∧ s1 = { s with groups := s.groups.set g none }) := by
  cases src with
  | newText str =>
    simp only [takeSourceA, Except.ok.injEq, Prod.mk.injEq] at h
    exact .inl ⟨str, rfl, h.1.symm⟩
  | group g =>
    simp only [takeSourceA] at h
    split at h
    · cases h
    · split at h
      · rename_i t hg
        simp only [Except.ok.injEq, Prod.mk.injEq] at h
        exact .inr ⟨g, rfl, h.2 ▸ hg, h.1.symm⟩
      · cases h

theorem take_modify_inv {s s' : StateA} {tgt : Nat} {src : Source} {G : PTree → PTree → Except EditErr PTree}
    (h : (match takeSourceA s tgt src with
          | .error e => Except.error e
          | .ok (s1, new) => modifyGroupA s1 tgt (G new)) = Except.ok s') :
    ∃ s1 new, takeSourceA s tgt src = .ok (s1, new) ∧ modifyGroupA s1 tgt (G new) = .ok s' := by
  split at h
  · cases h
  · rename_i s1 new hts; exact ⟨s1, new, hts, h⟩

theorem stepA_detach_inv {s s' : StateA} {a : Addr} (h : stepA s (.detach a) = .ok s') :
    s' = s ∨ ∃ p i t off t', s.groups[a.g]? = some (some t) ∧ getAtP t (p ++ [i]) = some off ∧
      modifyAtP (fun parent => (removeKid i parent).map (·.1)) t p = .ok t' ∧
      s' = { s with groups := s.groups.set a.g (some t') ++ [some off] } := by
  simp only [stepA] at h
  cases hsp : splitLast a.path with
  | none => rw [hsp] at h; cases h; exact .inl rfl
  | some r =>
    obtain ⟨p, i⟩ := r
    simp only [hsp] at h
    split at h
    · rename_i t hg
      split at h
      · cases h
      · rename_i off hoff
        split at h
        · cases h
        · rename_i t' ht'
          split at h
          · cases h; exact .inr ⟨p, i, t, off, t', hg, splitLast_eq hsp ▸ hoff, ht', rfl⟩
          · cases h
    · cases h

end Delb.Edit
