import DelbModel.Lemmas.Edit.Basic
/-!
# `merge_text_nodes` and deep clones commute with `abs`
-/
namespace Delb.Edit

def noTextHead : List PTree → Bool
  | [] => true
  | k :: _ => !k.isText

theorem mergeRunsP_cons_nontext (k : PTree) (hk : k.isText = false) (rest : List PTree) :
    mergeRunsP (k :: rest) = k :: mergeRunsP rest := by
  cases k <;> simp_all [mergeRunsP, PTree.isText]

theorem mergeRunsP_text_cons (i : Nat) (s : Str) (rest : List PTree) (h : noTextHead (mergeRunsP rest) = true) :
    mergeRunsP (.text i s :: rest) = .text i s :: mergeRunsP rest := by
  simp only [mergeRunsP]
  split
  · rename_i heq
    rw [heq] at h
    simp [noTextHead, PTree.isText] at h
  · rfl

theorem mergeRunsP_text_text (i : Nat) (s : Str) (rest : List PTree) (j : Nat) (t : Str) (rest' : List PTree)
    (h : mergeRunsP rest = .text j t :: rest') :
    mergeRunsP (.text i s :: rest) = .text i (s ++ t) :: rest' := by
  simp only [mergeRunsP, h]

theorem noTextHead_mergeRunsP (r : List PTree) (h : noTextHead r = true) : noTextHead (mergeRunsP r) = true := by
  cases r with
  | nil => simp [mergeRunsP, noTextHead]
  | cons k rest =>
    have hk : k.isText = false := by simpa [noTextHead] using h
    rw [mergeRunsP_cons_nontext k hk]
    simpa [noTextHead] using hk

theorem mergeRunsP_chain (c : Chain) (r : List PTree) (h : noTextHead r = true) :
    mergeRunsP (absChain c ++ r) = absChain (mergeChain c) ++ mergeRunsP r := by
  induction c with
  | nil => simp [mergeChain]
  | cons t c ih =>
    cases c with
    | nil =>
      simp only [absChain_cons, absChain_nil, List.cons_append, List.nil_append, mergeChain, List.map_nil,
        List.flatten_nil, List.append_nil]
      exact mergeRunsP_text_cons _ _ _ (noTextHead_mergeRunsP r h)
    | cons t2 c2 =>
      have ih' : mergeRunsP (absChain (t2 :: c2) ++ r) =
          .text t2.id (t2.s ++ ((c2.map (·.s)).flatten)) :: mergeRunsP r := by
        rw [ih]; simp [mergeChain]
      rw [absChain_cons, List.cons_append, mergeRunsP_text_text _ _ _ _ _ _ ih']
      simp [mergeChain]

theorem mergeListP_append (a b : List PTree) : mergeListP (a ++ b) = mergeListP a ++ mergeListP b := by
  induction a with
  | nil => simp [mergeListP]
  | cons x a ih => simp [mergeListP, ih]

theorem mergeListP_chain (c : Chain) : mergeListP (absChain c) = absChain c := by
  induction c with
  | nil => simp [mergeListP]
  | cons t c ih => simp [mergeListP, mergeP, ih]

theorem mergeP_isText (t : PTree) : (mergeP t).isText = t.isText := by
  cases t <;> simp [mergeP, PTree.isText]

theorem noTextHead_mergeListP_absKids (kids : List (El × Chain)) :
    noTextHead (mergeListP (absKids kids)) = true := by
  cases kids with
  | nil => simp [mergeListP, noTextHead]
  | cons x rest =>
    obtain ⟨e, tl⟩ := x
    simp [mergeListP, noTextHead, mergeP_isText, abs_not_text]

mutual
  theorem abs_mergeEl : (e : El) → abs (mergeEl e) = mergeP (abs e)
    | .tag i ns n a data kids => by
      simp only [mergeEl, abs_tag, mergeP, mergeListP_append, mergeListP_chain]
      rw [mergeRunsP_chain _ _ (noTextHead_mergeListP_absKids kids), abs_mergeElKids kids]
    | .comment i s => by simp [mergeEl, mergeP]
    | .pi i t s => by simp [mergeEl, mergeP]
  theorem abs_mergeElKids : (kids : List (El × Chain)) →
      absKids (mergeElKids kids) = mergeRunsP (mergeListP (absKids kids))
    | [] => by simp [mergeElKids, mergeListP, mergeRunsP]
    | (e, tl) :: rest => by
      simp only [mergeElKids, absKids_cons, mergeListP, mergeListP_append, mergeListP_chain]
      rw [mergeRunsP_cons_nontext _ (by rw [mergeP_isText]; exact abs_not_text e),
        mergeRunsP_chain _ _ (noTextHead_mergeListP_absKids rest), abs_mergeEl e, abs_mergeElKids rest]
end

@[simp] theorem cloneListP_nil (n : Nat) : cloneListP n [] = ([], n) := by simp [cloneListP]

@[simp] theorem cloneListP_cons (n : Nat) (k : PTree) (ks : List PTree) :
    cloneListP n (k :: ks) =
      ((cloneP n k).1 :: (cloneListP (cloneP n k).2 ks).1, (cloneListP (cloneP n k).2 ks).2) := by
  simp [cloneListP]

theorem cloneListP_append (n : Nat) (a b : List PTree) :
    cloneListP n (a ++ b) =
      ((cloneListP n a).1 ++ (cloneListP (cloneListP n a).2 b).1, (cloneListP (cloneListP n a).2 b).2) := by
  induction a generalizing n with
  | nil => simp [cloneListP_nil]
  | cons x a ih => simp [cloneListP_cons, ih]

theorem cloneChain_nil (n : Nat) : cloneChain n [] = ([], n) := by simp [cloneChain]

theorem cloneChain_cons (n : Nat) (t : TNode) (c : Chain) :
    cloneChain n (t :: c) = ({ id := n, s := t.s } :: (cloneChain (n + 1) c).1, (cloneChain (n + 1) c).2) := by
  simp [cloneChain]

theorem cloneChain_abs (n : Nat) (c : Chain) :
    cloneListP n (absChain c) = (absChain (cloneChain n c).1, (cloneChain n c).2) := by
  induction c generalizing n with
  | nil => simp [cloneListP_nil, cloneChain_nil]
  | cons t c ih => simp [cloneListP_cons, cloneChain_cons, cloneP, ih]

theorem cloneEl_tag (n i : Nat) (ns name : String) (a : List Attr) (data : Chain) (kids : List (El × Chain)) :
    cloneEl n (.tag i ns name a data kids) =
      (.tag n ns name a (cloneChain (n + 1) data).1 (cloneKids (cloneChain (n + 1) data).2 kids).1,
        (cloneKids (cloneChain (n + 1) data).2 kids).2) := by
  simp [cloneEl]

theorem cloneKids_cons (n : Nat) (e : El) (tl : Chain) (rest : List (El × Chain)) :
    cloneKids n ((e, tl) :: rest) =
      (((cloneEl n e).1, (cloneChain (cloneEl n e).2 tl).1) ::
          (cloneKids (cloneChain (cloneEl n e).2 tl).2 rest).1,
        (cloneKids (cloneChain (cloneEl n e).2 tl).2 rest).2) := by
  simp [cloneKids]

@[simp] theorem cloneP_tag (n i : Nat) (ns name : String) (a : List Attr) (ks : List PTree) :
    cloneP n (.tag i ns name a ks) = (.tag n ns name a (cloneListP (n + 1) ks).1, (cloneListP (n + 1) ks).2) := by
  simp [cloneP]
@[simp] theorem cloneP_text (n i s) : cloneP n (.text i s) = (.text n s, n + 1) := by simp [cloneP]
@[simp] theorem cloneP_comment (n i s) : cloneP n (.comment i s) = (.comment n s, n + 1) := by simp [cloneP]
@[simp] theorem cloneP_pi (n i t s) : cloneP n (.pi i t s) = (.pi n t s, n + 1) := by simp [cloneP]

mutual
  theorem cloneEl_abs : (e : El) → (n : Nat) → cloneP n (abs e) = (abs (cloneEl n e).1, (cloneEl n e).2)
    | .tag i ns name a data kids, n => by
      rw [abs_tag, cloneP_tag, cloneEl_tag, cloneListP_append, cloneChain_abs,
        cloneKids_abs kids]
      simp
    | .comment i s, n => by simp [cloneEl]
    | .pi i t s, n => by simp [cloneEl]
  theorem cloneKids_abs : (kids : List (El × Chain)) → (n : Nat) →
      cloneListP n (absKids kids) = (absKids (cloneKids n kids).1, (cloneKids n kids).2)
    | [], n => by simp [cloneKids, cloneListP_nil]
    | (e, tl) :: rest, n => by
      rw [absKids_cons, cloneListP_cons, cloneListP_append, cloneEl_abs e, cloneChain_abs,
        cloneKids_abs rest, cloneKids_cons]
      simp
end

end Delb.Edit
