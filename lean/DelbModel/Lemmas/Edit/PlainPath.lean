import DelbModel.Model.Edit
/-!
# Paths in plain trees: `splitLast`, `getAtP`

`NodeAt t p x` is `getAtP t p = some x` as an inductive relation, so that facts about the node at a path
are proved by induction on how the path reaches it.
-/
namespace Delb.Edit

theorem splitLast_append (p : List Nat) (i : Nat) : splitLast (p ++ [i]) = some (p, i) := by
  induction p with
  | nil => rfl
  | cons x q ih =>
    cases q with
    | nil => rfl
    | cons y q => simp only [List.cons_append] at ih ⊢; simp only [splitLast, ih]

theorem splitLast_cons_cons (i x : Nat) (xs : List Nat) :
    splitLast (i :: x :: xs) = (splitLast (x :: xs)).map (fun q => (i :: q.1, q.2)) := by
  simp only [splitLast]
  cases splitLast (x :: xs) with
  | none => rfl
  | some q => rfl

theorem splitLast_eq {path p : List Nat} {i : Nat} (h : splitLast path = some (p, i)) : path = p ++ [i] := by
  rcases List.eq_nil_or_concat path with rfl | ⟨q, x, rfl⟩
  · cases h
  · rw [List.concat_eq_append, splitLast_append] at h
    cases h
    exact List.concat_eq_append

theorem exists_cons_of_splitLast {path p : List Nat} {i : Nat} (h : splitLast path = some (p, i)) :
    ∃ x q, path = x :: q := by
  cases path with
  | nil => simp [splitLast] at h
  | cons x q => exact ⟨x, q, rfl⟩

@[simp] theorem getAtP_nil (t : PTree) : getAtP t [] = some t := by simp [getAtP]

theorem getAtP_text (i : Nat) (s : Str) (x : Nat) (p : List Nat) : getAtP (.text i s) (x :: p) = none := rfl

theorem getAtP_cons_tag (i : Nat) (ns nm : String) (a : List Attr) (ks : List PTree) (k : Nat) (p : List Nat)
    (c : PTree) (hc : ks[k]? = some c) : getAtP (.tag i ns nm a ks) (k :: p) = getAtP c p := by
  simp [getAtP, hc]

theorem getAtP_single (t : PTree) (k : Nat) : getAtP t [k] = t.kids[k]? := by
  cases t with
  | tag i ns n a ks => simp only [getAtP, PTree.kids]; cases ks[k]? <;> rfl
  | text | comment | pi => rfl

inductive NodeAt : PTree → List Nat → PTree → Prop
  | nil (t : PTree) : NodeAt t [] t
  | cons {i : Nat} {ns n : String} {a : List Attr} {ks : List PTree} {k : Nat} {c : PTree} {p : List Nat}
      {x : PTree} (hc : ks[k]? = some c) (h : NodeAt c p x) : NodeAt (.tag i ns n a ks) (k :: p) x

theorem NodeAt.get {t x : PTree} {p : List Nat} (h : NodeAt t p x) : getAtP t p = some x := by
  induction h with
  | nil t => exact getAtP_nil t
  | cons hc _ ih => rw [getAtP_cons_tag _ _ _ _ _ _ _ _ hc, ih]

theorem nodeAt_of_get {p : List Nat} {t x : PTree} (h : getAtP t p = some x) : NodeAt t p x := by
  induction p generalizing t with
  | nil => rw [getAtP_nil] at h; cases h; exact .nil _
  | cons k p ih =>
    cases t with
    | tag i ns n a ks =>
      simp only [getAtP] at h
      cases hc : ks[k]? with
      | none => simp [hc] at h
      | some c => rw [hc] at h; exact .cons hc (ih h)
    | text | comment | pi => simp [getAtP] at h

theorem getAtP_cons_some {root : PTree} {k : Nat} {p : List Nat} {n : PTree}
    (h : getAtP root (k :: p) = some n) :
    ∃ i ns nm a ks c, root = .tag i ns nm a ks ∧ ks[k]? = some c ∧ getAtP c p = some n := by
  cases nodeAt_of_get h with
  | cons hc h' => exact ⟨_, _, _, _, _, _, rfl, hc, h'.get⟩

theorem getAtP_append (p q : List Nat) (t : PTree) :
    getAtP t (p ++ q) = (getAtP t p).bind (fun x => getAtP x q) := by
  induction p generalizing t with
  | nil => simp
  | cons k p ih =>
    cases t with
    | tag i ns n a ks =>
      simp only [List.cons_append, getAtP]
      cases ks[k]? with
      | none => rfl
      | some c => exact ih c
    | text | comment | pi => rfl

theorem getAtP_snoc (root : PTree) (par : List Nat) (k : Nat) (parent : PTree)
    (h : getAtP root par = some parent) : getAtP root (par ++ [k]) = parent.kids[k]? := by
  rw [getAtP_append, h, Option.bind_some, getAtP_single]

theorem getAtP_prefix (root : PTree) (path : List Nat) (n : PTree) (h : getAtP root path = some n) (k : Nat) :
    ∃ m, getAtP root (path.take k) = some m := by
  rw [← List.take_append_drop k path, getAtP_append] at h
  cases hm : getAtP root (path.take k) with
  | none => simp [hm] at h
  | some m => exact ⟨m, rfl⟩

theorem getAtP_root_isTag {p : List Nat} {t x : PTree} (h : getAtP t p = some x) (hx : x.isTag = true) :
    t.isTag = true := by
  cases nodeAt_of_get h with
  | nil => exact hx
  | cons => rfl

end Delb.Edit
